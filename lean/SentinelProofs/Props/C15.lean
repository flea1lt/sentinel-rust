import SentinelProofs.Lemmas.Deadlock
import SentinelProofs.Generated.LockTraces
/-!
# C15 — concurrent rule updates and entries never deadlock

General part (any number of threads, any programs): a ranking of the locks that every program respects excludes deadlock in
every reachable configuration. Instance part (regenerated from executions of the current source on every run): the lock
traces of every manager function and of the entry / exit paths respect one ranking — checked by the kernel (`decide`).
-/
set_option autoImplicit false
namespace Sentinel.Conc

/-- **Ranking ⇒ no deadlock**: programs that acquire locks in increasing rank only never reach a configuration in which the
unfinished threads all wait for each other -/
theorem rank_no_deadlock (rank : Lock → Nat) (progs : List (List Act)) (h : ∀ p ∈ progs, Ok rank [] p) (c : Cfg)
    (hr : Reachable progs c) : ¬ Deadlocked c :=
  no_deadlock rank c (reachable_LInv rank progs h c hr)

/-- a thread that runs one ranked operation after another is itself ranked -/
theorem ok_append (rank : Lock → Nat) (held : List Lock) (p q : List Act) (hp : Ok rank held p) (hq : Ok rank [] q) :
    Ok rank held (p ++ q) := by
  induction p generalizing held with
  | nil =>
    simp only [Ok] at hp
    subst hp
    simpa using hq
  | cons a p ih =>
    cases a with
    | acq l => exact ⟨hp.1, hp.2.1, ih _ hp.2.2⟩
    | rel l => exact ⟨hp.1, ih _ hp.2⟩

theorem ok_flatten (rank : Lock → Nat) (ops : List (List Act)) (h : ∀ p ∈ ops, Ok rank [] p) : Ok rank [] ops.flatten := by
  induction ops with
  | nil => simp [Ok]
  | cons p rest ih =>
    simp only [List.flatten_cons]
    exact ok_append rank [] p _ (h p (by simp)) (ih (fun q hq => h q (by simp [hq])))

/-- mutual exclusion: a lock has at most one holder (the lock table is a function) and a successful acquisition finds it free -/
theorem acquire_needs_free (c c' : Cfg) (t : Tid) (l : Lock) (rest : List Act) (hp : c.prog t = Act.acq l :: rest)
    (hs : c.step t = some c') : c.holder l = none ∧ c'.holder l = some t := by
  obtain ⟨a, rest', l', new, hp', rfl, hcase⟩ := step_some hs
  rw [hp] at hp'
  rcases hcase with ⟨rfl, hfree, rfl⟩ | ⟨rfl, _, _⟩ <;> cases hp'
  exact ⟨hfree, by simp⟩

/-! ## termination -/

/-- work left: the total length of the remaining programs -/
def Cfg.work (c : Cfg) : Nat := (c.progs.map List.length).sum

/-- every step consumes one action -/
theorem step_work (c c' : Cfg) (t : Tid) (hs : c.step t = some c') : c'.work + 1 = c.work := by
  obtain ⟨a, rest, l, new, hp, rfl, _⟩ := step_some hs
  have ht := lt_of_prog_cons hp
  have := sum_map_set List.length c.progs t rest ht
  have hget : c.progs[t] = a :: rest := by simpa [Cfg.prog, List.getD, ht] using hp
  have hlen : c.progs[t].length = rest.length + 1 := by rw [hget, List.length_cons]
  simp only [Cfg.work]
  omega

/-- **Progress**: while some call has not returned some thread can move -/
theorem progress (rank : Lock → Nat) (progs : List (List Act)) (h : ∀ p ∈ progs, Ok rank [] p) (c : Cfg)
    (hr : Reachable progs c) (hu : ∃ t, c.unfinished t) : ∃ t c', c.step t = some c' := by
  apply Classical.byContradiction
  intro hno
  refine rank_no_deadlock rank progs h c hr ⟨hu, fun t _ => ?_⟩
  cases hst : c.step t with
  | none => rfl
  | some c' => exact absurd ⟨t, c', hst⟩ hno

/-- **All calls returned ⇒ every lock is free**: nothing is left locked, so every manager still answers and accepts updates -/
theorem all_done_locks_free (rank : Lock → Nat) (progs : List (List Act)) (h : ∀ p ∈ progs, Ok rank [] p) (c : Cfg)
    (hr : Reachable progs c) (hdone : ∀ t, ¬ c.unfinished t) (l : Lock) : c.holder l = none := by
  cases hh : c.holder l with
  | none => rfl
  | some t => exact absurd (holder_unfinished rank c (reachable_LInv rank progs h c hr) l t hh) (hdone t)

/-- **Termination**: keeping on choosing a thread that can move leads to a configuration in which every call has returned and every
lock is free; no execution makes more than `work` steps (`step_work`). -/
theorem terminates (rank : Lock → Nat) (progs : List (List Act)) (h : ∀ p ∈ progs, Ok rank [] p) (c : Cfg)
    (hr : Reachable progs c) :
    ∃ c', Reachable progs c' ∧ (∀ t, ¬ c'.unfinished t) ∧ ∀ l, c'.holder l = none := by
  by_cases hu : ∃ t, c.unfinished t
  · obtain ⟨t, c', hst⟩ := progress rank progs h c hr hu
    -- for `decreasing_by`: the work left goes down by one
    have := step_work c c' t hst
    exact terminates rank progs h c' (.step c c' t hr hst)
  · have hdone : ∀ t, ¬ c.unfinished t := fun t ht => hu ⟨t, ht⟩
    exact ⟨c, hr, hdone, all_done_locks_free rank progs h c hr hdone⟩
termination_by c.work
decreasing_by omega

/-! ## the instance extracted from the current source -/

open Generated

theorem okB_iff (rank : Lock → Nat) (held : List Lock) (p : List Act) : okB rank held p = true ↔ Ok rank held p := by
  induction p generalizing held with
  | nil => simp [okB, Ok]
  | cons a p ih => cases a <;> simp [okB, Ok, ih, and_assoc]

/-- **every recorded operation respects the ranking** (kernel-checked; regenerated on every run) -/
theorem traces_ranked : traces.all (fun t => okB rankOf [] t.2) = true := by decide

/-- programs as `managers_deadlock_free` and `managers_terminate` take them, each a sequence of recorded operations, respect the
ranking -/
theorem traced_progs_ok (progs : List (List Act))
    (h : ∀ p ∈ progs, ∃ ops : List (List Act), (∀ o ∈ ops, ∃ name, (name, o) ∈ traces) ∧ p = ops.flatten) :
    ∀ p ∈ progs, Ok rankOf [] p := by
  intro p hp
  obtain ⟨ops, hops, rfl⟩ := h p hp
  refine ok_flatten rankOf ops (fun o ho => ?_)
  obtain ⟨name, hn⟩ := hops o ho
  exact (okB_iff rankOf [] o).mp (List.all_eq_true.mp traces_ranked (name, o) hn)

/-- **The managers are deadlock-free**: threads that each run any sequence of the recorded operations (manager functions of
all five families, entry, exit, with a listener calling back into read-only manager functions) never reach a configuration in
which the unfinished threads all wait for each other. -/
theorem managers_deadlock_free (progs : List (List Act))
    (h : ∀ p ∈ progs, ∃ ops : List (List Act), (∀ o ∈ ops, ∃ name, (name, o) ∈ traces) ∧ p = ops.flatten)
    (c : Cfg) (hr : Reachable progs c) : ¬ Deadlocked c :=
  rank_no_deadlock rankOf progs (traced_progs_ok progs h) c hr

/-- **The managers' calls terminate and leave every lock free** (same hypotheses as `managers_deadlock_free`) -/
theorem managers_terminate (progs : List (List Act))
    (h : ∀ p ∈ progs, ∃ ops : List (List Act), (∀ o ∈ ops, ∃ name, (name, o) ∈ traces) ∧ p = ops.flatten)
    (c : Cfg) (hr : Reachable progs c) :
    ∃ c', Reachable progs c' ∧ (∀ t, ¬ c'.unfinished t) ∧ ∀ l, c'.holder l = none :=
  terminates rankOf progs (traced_progs_ok progs h) c hr

/-- the criterion is not vacuous: a two-lock inversion is rejected -/
example : okB (fun l => l) [] [.acq 1, .acq 0, .rel 0, .rel 1] = false := by decide

end Sentinel.Conc
