import Sentinel.World
import SentinelProofs.Lemmas.Node
import SentinelProofs.Props.C02
import SentinelProofs.Lemmas.World
/-!
# C04 — every entry is accounted exactly once

World level: what `World.build` / `World.exit` do to the statistics nodes. Node level: after any sequence of such
recordings, what the node reports is the sum over the entries' history, and the in-flight count is the number of open entries.
-/
set_option autoImplicit false
namespace Sentinel

/-! ## what build and exit do to the nodes -/

/-- **pass xor block, with the batch count, on the resource's node; mirrored on the inbound node iff inbound.**
`tc` is the time at which the rule-check slots finished (later than the call time only when a throttling rule
made the caller wait). -/
theorem build_accounts_once (w : World) (eid : Nat) (res : String) (batch : Nat) (inbound : Bool)
    (args : Option (List String)) (atts : Option (List (String × String))) :
    let tc := (w.runChecks res batch inbound args atts).nowNs / 1000000
    ((w.build eid res batch inbound args atts).2 = .pass ∧
        (w.build eid res batch inbound args atts).1.node res = (w.node res).recordPass tc batch ∧
        (w.build eid res batch inbound args atts).1.inbound = (if inbound then w.inbound.recordPass tc batch else w.inbound)) ∨
    ((∃ ty rule snap, (w.build eid res batch inbound args atts).2 = .blocked ty rule snap) ∧
        (w.build eid res batch inbound args atts).1.node res = (w.node res).recordBlock tc batch ∧
        (w.build eid res batch inbound args atts).1.inbound = (if inbound then w.inbound.recordBlock tc batch else w.inbound)) := by
  unfold World.build
  dsimp only
  cases hv : (w.runChecks res batch inbound args atts).res with
  | pass =>
    left
    simp only [World.node, lookup_update_same, Option.getD_some, and_self]
  | blocked ty rule snap =>
    right
    simp only [World.node, lookup_update_same, Option.getD_some, and_self, and_true]
    exact ⟨_, _, _, rfl⟩

/-- other resources' nodes are untouched by a build -/
theorem build_frame (w : World) (eid : Nat) (res res' : String) (batch : Nat) (inbound : Bool)
    (args : Option (List String)) (atts : Option (List (String × String))) (hne : res ≠ res') :
    (w.build eid res batch inbound args atts).1.node res' = w.node res' := by
  unfold World.build
  dsimp only
  cases hv : (w.runChecks res batch inbound args atts).res <;>
  simp only [World.node, lookup_update_other _ _ _ _ hne]

/-- outbound entries are never mirrored on the inbound totals -/
theorem outbound_not_mirrored (w : World) (eid : Nat) (res : String) (batch : Nat)
    (args : Option (List String)) (atts : Option (List (String × String))) :
    (w.build eid res batch false args atts).1.inbound = w.inbound := by
  rcases build_accounts_once w eid res batch false args atts with ⟨_, _, h⟩ | ⟨_, _, h⟩ <;> simpa using h

/-- the entry an admitted build registers -/
theorem build_pass_entry (w : World) (eid : Nat) (res : String) (batch : Nat) (inbound : Bool)
    (args : Option (List String)) (atts : Option (List (String × String)))
    (h : (w.build eid res batch inbound args atts).2 = .pass) :
    ∃ e, (w.build eid res batch inbound args atts).1.entries.find? (fun p => p.1 == eid) = some (eid, e) ∧
      e.res = res ∧ e.batch = batch := by
  unfold World.build at h ⊢
  dsimp only at h ⊢
  cases hv : (w.runChecks res batch inbound args atts).res with
  | pass => simp
  | blocked ty rule snap =>
    rw [hv] at h
    simp at h

/-- a blocked entry changes neither the in-flight count nor the completion, response-time and pass statistics of its node -/
theorem blocked_leaves_no_trace (n : Node) (now batch : Nat) :
    (n.recordBlock now batch).conc = n.conc ∧
    (∀ L lo hi, windowSum L (n.recordBlock now batch).hist lo hi .complete = windowSum L n.hist lo hi .complete) ∧
    (∀ L lo hi, windowSum L (n.recordBlock now batch).hist lo hi .rt = windowSum L n.hist lo hi .rt) ∧
    (∀ L lo hi, windowSum L (n.recordBlock now batch).hist lo hi .pass = windowSum L n.hist lo hi .pass) := by
  -- a block event counts for no statistic but `block`
  have hsum : ∀ k, Ev.amount k (.add .block batch) = 0 →
      ∀ L lo hi, windowSum L (n.recordBlock now batch).hist lo hi k = windowSum L n.hist lo hi k := by
    intro k hk L lo hi
    rcases Node.record_hist n now (.add .block batch) with e | e
    · exact congrArg (windowSum L · lo hi k) e
    · exact (congrArg (windowSum L · lo hi k) e).trans (windowSum_cons_zero hk)
  exact ⟨n.recordBlock_conc now batch, hsum .complete rfl, hsum .rt rfl, hsum .pass rfl⟩

/-- exit of a passed entry: one completion of the batch count and its response time on the resource's node,
mirrored on the inbound node iff the entry was inbound; the entry is closed -/
theorem exit_records_completion (w : World) (eid : Nat) (e : Entry)
    (h : w.entries.find? (fun p => p.1 == eid) = some (eid, e)) :
    ∃ w', w.exit eid = some w' ∧
      w'.node e.res = (w.node e.res).recordComplete w.nowMs e.batch (w.nowMs - e.startMs) ∧
      w'.inbound = (if e.inbound then w.inbound.recordComplete w.nowMs e.batch (w.nowMs - e.startMs) else w.inbound) ∧
      w'.entries = w.entries.filter (fun p => p.1 != eid) := by
  unfold World.exit
  rw [h]
  refine ⟨_, rfl, ?_, rfl, rfl⟩
  simp only [World.node, lookup_update_same, Option.getD_some]

/-- **A traced error does not change the accounting**: whether or not an error was attached to the entry (`Entry::set_err`,
`api::trace_error`), its exit leaves the same node statistics, inbound totals, hotspot in-flight counters and set of open
entries; only the circuit breakers (and their notifications) see the error. -/
theorem exit_error_does_not_change_accounting (w : World) (eid : Nat) :
    (w.exit eid true).map (fun w' => (w'.nodes, w'.inbound, w'.hs, w'.entries)) =
    (w.exit eid false).map (fun w' => (w'.nodes, w'.inbound, w'.hs, w'.entries)) := by
  unfold World.exit
  split
  · rfl
  · -- `err` reaches only `Breaker.onComplete`, whose results go to `br` and `log`; the projection keeps neither
    simp only [Option.map_some]

/-! ## node-level accounting over arbitrary histories -/

inductive NOp where
  | pass (t n : Nat)
  | block (t n : Nat)
  | complete (t n rt : Nat)

def NOp.time : NOp → Nat
  | .pass t _ => t
  | .block t _ => t
  | .complete t _ _ => t

/-- what `World.build` / `World.exit` do to one statistics node (`build_accounts_once`, `exit_records_completion`) -/
def Node.apply (n : Node) : NOp → Node
  | .pass t b => n.recordPass t b
  | .block t b => n.recordBlock t b
  | .complete t b rt => n.recordComplete t b rt

/-- a fresh node after a history of such operations (newest first) -/
def Node.runOps : List NOp → Node
  | [] => {}
  | op :: older => (Node.runOps older).apply op

/-- Spec: the amount an entry-level operation contributes to statistic `k` -/
def NOp.amount (k : Kind) : NOp → Nat
  | .pass _ n => if k = .pass then n else 0
  | .block _ n => if k = .block then n else 0
  | .complete _ n rt => if k = .complete then n else if k = .rt then rt else 0

/-- Spec: total of `k` over the operations whose time bucket lies in `[lo, hi]` -/
def opsSum (L : Nat) (ops : List NOp) (lo hi : Nat) (k : Kind) : Nat :=
  ((ops.filter (fun o => lo ≤ o.time - o.time % L && o.time - o.time % L ≤ hi)).map (NOp.amount k)).sum

/-- Spec: the entries still open: passes minus completions -/
def opsOpen : List NOp → Nat
  | [] => 0
  | .pass _ _ :: older => opsOpen older + 1
  | .block _ _ :: older => opsOpen older
  | .complete _ _ _ :: older => opsOpen older - 1

/-- what is asked of a history: times do not decrease and stay clear of stamp 0, the ring's "never used" mark -/
def NOpsOk : List NOp → Prop
  | [] => True
  | op :: older => (∀ o ∈ older, o.time ≤ op.time) ∧ 0 < globalGeo.start op.time ∧ NOpsOk older

theorem opsSum_cons (L : Nat) (o : NOp) (ops : List NOp) (lo hi : Nat) (k : Kind) :
    opsSum L (o :: ops) lo hi k =
      (if lo ≤ o.time - o.time % L ∧ o.time - o.time % L ≤ hi then o.amount k else 0) + opsSum L ops lo hi k := by
  simp only [opsSum, sum_filter_cons, Bool.and_eq_true, decide_eq_true_eq]

/-- the invariant of `run_acctOk`: the ring refines the node's history (so reads are window sums, `node_reads_eq`), that
history totals what the Spec totals, and the in-flight count is the number of open entries -/
structure AcctOk (n : Node) (ops : List NOp) (tl : Nat) : Prop where
  inv : BInv globalGeo n.ring n.hist tl
  agree : ∀ L lo hi k, windowSum L n.hist lo hi k = opsSum L ops lo hi k
  conc : n.conc = opsOpen ops

/-- the ring events an entry-level operation records (newest first), on a node with `c` entries in flight -/
def NOp.events (c : Nat) : NOp → List Ev
  | .pass _ b => [.add .pass b, .conc (c + 1)]
  | .block _ b => [.add .block b]
  | .complete _ b rt => [.add .complete b, .add .rt rt]

theorem NOp.events_amount (c : Nat) (op : NOp) (k : Kind) : ((op.events c).map (Ev.amount k)).sum = op.amount k := by
  cases op <;> cases k <;>
    simp only [NOp.events, Ev.amount, NOp.amount, List.map_cons, List.map_nil, List.sum_cons, List.sum_nil, reduceCtorEq,
      if_true, if_false, Nat.add_zero, Nat.zero_add]

theorem Node.apply_spec (n : Node) (op : NOp) (tl : Nat)
    (h : BInv globalGeo n.ring n.hist tl) (ht : tl ≤ op.time) (hpos : 0 < globalGeo.start op.time) :
    BInv globalGeo (n.apply op).ring (n.apply op).hist op.time ∧
      (n.apply op).hist = (op.events n.conc).map (fun e => (op.time, e)) ++ n.hist := by
  cases op with
  | pass t b => exact n.recordPass_spec tl t b h ht hpos
  | block t b => exact n.recordBlock_spec tl t b h ht hpos
  | complete t b rt => exact n.recordComplete_spec tl t b rt h ht hpos

/-- **In-flight count = open entries**, whatever the times (`h` is not used): a recording the ring refuses loses an event,
never the count -/
theorem concurrency_eq_open_passed (ops : List NOp) (h : NOpsOk ops) :
    (Node.runOps ops).conc = opsOpen ops := by
  clear h
  induction ops with
  | nil => rfl
  | cons op older ih =>
    cases op with
    | pass t b => exact ((Node.runOps older).recordPass_conc t b).trans (congrArg (· + 1) ih)
    | block t b => exact ((Node.runOps older).recordBlock_conc t b).trans ih
    | complete t b rt => exact ((Node.runOps older).recordComplete_conc t b rt).trans (congrArg (· - 1) ih)

theorem run_acctOk_at (ops : List NOp) (h : NOpsOk ops) (t : Nat) (ht : ∀ o ∈ ops, o.time ≤ t) :
    AcctOk (Node.runOps ops) ops t := by
  induction ops generalizing t with
  | nil => exact ⟨binv_init _ t, fun _ _ _ _ => rfl, rfl⟩
  | cons op older ih =>
    have hok := ih h.2.2 op.time h.1
    obtain ⟨hi, he⟩ := (Node.runOps older).apply_spec op op.time hok.inv (Nat.le_refl _) h.2.1
    refine ⟨hi.mono (ht op List.mem_cons_self), fun L lo hi k => ?_, concurrency_eq_open_passed _ h⟩
    show windowSum L ((Node.runOps older).apply op).hist lo hi k = _
    rw [he, windowSum_events, opsSum_cons, hok.agree, op.events_amount]

/-- **Every entry is accounted exactly once**: after any admissible sequence of pass / block / completion recordings the
node's history agrees with the Spec for every statistic and every window, and its in-flight count is the number of passed,
un-exited entries. -/
theorem run_acctOk (ops : List NOp) (h : NOpsOk ops) :
    ∃ tl, AcctOk (Node.runOps ops) ops tl ∧ (ops = [] ∨ ∃ o ∈ ops, tl = o.time) := by
  cases ops with
  | nil => exact ⟨0, run_acctOk_at [] h 0 (fun _ ho => nomatch ho), Or.inl rfl⟩
  | cons op older =>
    exact ⟨op.time, run_acctOk_at _ h _ (List.forall_mem_cons.mpr ⟨Nat.le_refl _, h.1⟩), Or.inr ⟨op, List.mem_cons_self, rfl⟩⟩

/-- what the node reports through its default metric is the Spec's total over the window -/
theorem node_reads_eq (ops : List NOp) (h : NOpsOk ops) (now : Nat) (k : Kind)
    (hnow : ∀ o ∈ ops, o.time ≤ now) (hguard : 1000 ≤ globalGeo.start now) :
    (Node.runOps ops).sum defaultReader now k
      = opsSum 500 ops (globalGeo.start now - 1000 + 500) (globalGeo.start now) k := by
  have hok := run_acctOk_at ops h now hnow
  unfold Node.sum
  rw [sliding_sum_eq globalGeo globalGeo_n globalGeo_L _ _ now defaultReader now k hok.inv (Nat.le_refl _)
    (by decide) (by decide) hguard]
  exact hok.agree _ _ _ _

example : NOpsOk [.complete 1700000000900 2 400, .block 1700000000600 1, .pass 1700000000500 2] := by
  refine ⟨by decide, by decide, by decide, by decide, by decide, by decide, trivial⟩
example : opsSum 500 [.complete 1700000000900 2 400, .block 1700000000600 1, .pass 1700000000500 2]
    (1700000000500 - 1000 + 500) 1700000000500 .rt = 400 := by decide

end Sentinel
