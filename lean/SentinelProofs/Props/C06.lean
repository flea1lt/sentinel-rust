import Sentinel.Hotspot
import SentinelProofs.Lemmas.Lru
/-!
# C06 — hotspot QPS limiting is a per-parameter token bucket with no cross-talk

Three parts.
* `Bucket`: what `RejectChecker::do_check` does for ONE parameter value, as a function of that value's
  two counter cells only (last refill time, remaining tokens).
* LRU layer: while the number of distinct values stays within the capacity, `Lru` behaves like a finite map, and
  `HsCtrl.checkReject` for value `v` reads and writes exactly `v`'s two cells as `Bucket.step` prescribes. Hence no cross-talk.
* Runs: every request sequence over values that fit the capacity is decided by independent buckets, so the bucket's bound
  holds through the controller.
-/
set_option autoImplicit false
namespace Sentinel

/-! ## the per-value token bucket -/

/-- one value's cells: `none` = never seen; `some (lastRefillMs, tokens)` -/
abbrev Bucket := Option (Nat × Nat)

inductive BRes where
  | pass | zeroThreshold | batchTooBig | insufficient
  deriving Repr, DecidableEq

/-- `RejectChecker::do_check` for one value with threshold `q` (override already applied), burst `b`,
duration `D = d*1000` ms -/
def Bucket.step (q b D : Nat) (s : Bucket) (now batch : Nat) : Bucket × BRes :=
  if q = 0 then (s, .zeroThreshold) else
  let maxCount := q + b
  if batch > maxCount then (s, .batchTooBig) else
  match s with
  | none => (some (now, maxCount - batch), .pass)
  | some (last, rest) =>
    if now > last + D then
      let toAdd := (now - last) * q / D
      if toAdd + rest > maxCount then (some (now, maxCount - batch), .pass)
      else if toAdd + rest < batch then (some (last, rest), .insufficient)
      else (some (now, toAdd + rest - batch), .pass)
    else
      if rest ≥ batch then (some (last, rest - batch), .pass) else (some (last, rest), .insufficient)

/-- time at which the value's cells were created (its first admitted request) -/
def firstAfter (first : Option Nat) (s' : Bucket) (t : Nat) : Option Nat :=
  match first with
  | some f => some f
  | none => match s' with | some _ => some t | none => none

/-- run a list of arrivals `(time, batch)` (newest first) for one value; returns the cells, the time of the first
request and the tokens admitted so far -/
def Bucket.run (q b D : Nat) : List (Nat × Nat) → Bucket × Option Nat × Nat
  | [] => (none, none, 0)
  | (t, n) :: older =>
    let (s, first, adm) := Bucket.run q b D older
    let (s', r) := Bucket.step q b D s t n
    (s', firstAfter first s' t, if r = .pass then adm + n else adm)

/-- arrival times do not decrease (the list is newest first, as `Bucket.run` takes it) -/
def TimesOk : List (Nat × Nat) → Prop
  | [] => True
  | a :: older => (∀ o ∈ older, o.1 ≤ a.1) ∧ TimesOk older

/-- the last refill is not after `now` -/
def Bucket.lastLe (s : Bucket) (now : Nat) : Prop := ∀ last rest, s = some (last, rest) → last ≤ now

theorem Bucket.lastLe_none (now : Nat) : Bucket.lastLe none now := nofun

theorem Bucket.lastLe.mono {s : Bucket} {t t' : Nat} (h : s.lastLe t) (ht : t ≤ t') : s.lastLe t' :=
  fun l r hs => Nat.le_trans (h l r hs) ht

theorem Bucket.lastLe_some {last rest t : Nat} : Bucket.lastLe (some (last, rest)) t ↔ last ≤ t :=
  ⟨fun h => h last rest rfl, fun h _ _ e => (Prod.mk.inj (Option.some.inj e)).1 ▸ h⟩

/-- invariant: `admitted + remaining ≤ q + b + q·(lastRefill − first)/D`, stated without division -/
def BucketInv (q b D : Nat) (s : Bucket) (first : Option Nat) (adm : Nat) : Prop :=
  match s, first with
  | none, none => adm = 0
  | some (last, rest), some f => f ≤ last ∧ (adm + rest) * D ≤ (q + b) * D + q * (last - f)
  | _, _ => False

theorem BucketInv.refused {q b D : Nat} {s : Bucket} {first : Option Nat} {adm : Nat} (h : BucketInv q b D s first adm)
    (now : Nat) : BucketInv q b D s (firstAfter first s now) adm := by
  rcases s with _ | ⟨last, rest⟩
  · rcases first with _ | f
    · exact h
    · exact h.elim
  · rcases first with _ | f
    · exact h.elim
    · exact h

/-- `hd` is the refill entitlement: of the `avail` tokens the request found, what was not in the bucket (`rest`) was earned at
rate `q` per `D` since the last refill -/
theorem BucketInv.admitted {q b D last rest f adm : Nat} (h : BucketInv q b D (some (last, rest)) (some f) adm)
    (last' avail batch : Nat) (hl : last ≤ last') (hb : batch ≤ avail) (hd : avail * D ≤ rest * D + (last' - last) * q) :
    BucketInv q b D (some (last', avail - batch)) (some f) (adm + batch) := by
  obtain ⟨hfl, hI⟩ := h
  refine ⟨Nat.le_trans hfl hl, ?_⟩
  have hsplit : q * (last' - f) = q * (last - f) + (last' - last) * q := by
    rw [Nat.mul_comm _ q, ← Nat.mul_add]
    congr 1
    omega
  rw [hsplit, Nat.add_assoc adm, Nat.add_sub_of_le hb, Nat.add_mul, ← Nat.add_assoc]
  rw [Nat.add_mul] at hI
  refine Nat.le_trans (Nat.add_le_add_left hd _) ?_
  rw [← Nat.add_assoc]
  exact Nat.add_le_add_right hI _

/-- the tokens a request finds for a value seen before: what was left and, once the window has passed, the refill on top, capped -/
def Bucket.avail (q b D last rest now : Nat) : Nat :=
  if now > last + D then min ((now - last) * q / D + rest) (q + b) else rest

/-- `Bucket.step` as a list of disjoint cases: two refusals whatever the cells hold, the first request, and for a value seen before
refusal or admission by `avail`; `Bucket.step_inv` and `reject_only_if_insufficient` read their cases off this -/
theorem Bucket.step_eq (q b D : Nat) (s : Bucket) (now batch : Nat) :
    Bucket.step q b D s now batch =
      if q = 0 then (s, .zeroThreshold) else if batch > q + b then (s, .batchTooBig) else
      match s with
      | none => (some (now, q + b - batch), .pass)
      | some (last, rest) =>
        if Bucket.avail q b D last rest now < batch then (s, .insufficient)
        else (some (if now > last + D then now else last, Bucket.avail q b D last rest now - batch), .pass) := by
  unfold Bucket.step Bucket.avail
  dsimp only
  -- `by_cases` and `rw` here and in the readers below: `split` on these goals is several times dearer to check
  by_cases hq : q = 0
  · rw [if_pos hq, if_pos hq]
  rw [if_neg hq, if_neg hq]
  by_cases hb : batch > q + b
  · rw [if_pos hb, if_pos hb]
  rw [if_neg hb, if_neg hb]
  rcases s with _ | ⟨last, rest⟩
  · rfl
  dsimp only
  by_cases hre : now > last + D
  · rw [if_pos hre, if_pos hre, if_pos hre]
    by_cases h1 : (now - last) * q / D + rest > q + b
    · rw [if_pos h1, Nat.min_eq_right (Nat.le_of_lt h1), if_neg hb]
    · rw [if_neg h1, Nat.min_eq_left (Nat.le_of_not_lt h1)]
  · rw [if_neg hre, if_neg hre, if_neg hre]
    by_cases h3 : rest ≥ batch
    · rw [if_pos h3, if_neg (Nat.not_lt.mpr h3)]
    · rw [if_neg h3, if_pos (Nat.lt_of_not_le h3)]

/-- the refill entitlement, in the terms of `BucketInv.admitted` -/
theorem Bucket.avail_le (q b D last rest now : Nat) :
    Bucket.avail q b D last rest now * D ≤ rest * D + ((if now > last + D then now else last) - last) * q := by
  unfold Bucket.avail
  split
  · have hdiv : (now - last) * q / D * D ≤ (now - last) * q := Nat.div_mul_le_self _ _
    have := Nat.mul_le_mul_right D (Nat.min_le_left ((now - last) * q / D + rest) (q + b))
    rw [Nat.add_mul] at this
    omega
  · exact Nat.le_add_right _ _

/-- one step keeps the invariant and `lastLe`: a refusal changes nothing, an admission is `BucketInv.admitted` with `avail_le` -/
theorem Bucket.step_inv (q b D : Nat) (s : Bucket) (first : Option Nat) (adm now batch : Nat)
    (hinv : BucketInv q b D s first adm) (hnow : s.lastLe now) :
    BucketInv q b D (Bucket.step q b D s now batch).1 (firstAfter first (Bucket.step q b D s now batch).1 now)
      (if (Bucket.step q b D s now batch).2 = .pass then adm + batch else adm) ∧
    (Bucket.step q b D s now batch).1.lastLe now := by
  have hrefused : ∀ r : BRes, r ≠ .pass → BucketInv q b D (s, r).1 (firstAfter first (s, r).1 now)
      (if (s, r).2 = .pass then adm + batch else adm) ∧ (s, r).1.lastLe now :=
    fun r hr => ⟨(if_neg hr).symm ▸ hinv.refused now, hnow⟩
  generalize hr : Bucket.step q b D s now batch = r
  rw [Bucket.step_eq] at hr
  by_cases hq : q = 0
  · rw [if_pos hq] at hr
    subst hr
    exact hrefused _ nofun
  by_cases hb : batch > q + b
  · rw [if_neg hq, if_pos hb] at hr
    subst hr
    exact hrefused _ nofun
  rw [if_neg hq, if_neg hb] at hr
  rcases s with _ | ⟨last, rest⟩
  · -- the first request creates the cells
    subst hr
    rw [if_pos rfl]
    rcases first with _ | f
    · have h0 : adm = 0 := hinv
      subst h0
      refine ⟨⟨Nat.le_refl _, ?_⟩, Bucket.lastLe_some.mpr (Nat.le_refl _)⟩
      rw [Nat.sub_self, Nat.mul_zero, Nat.add_zero]
      exact Nat.mul_le_mul_right _ (by omega)
    · exact hinv.elim
  dsimp only at hr
  by_cases hav : Bucket.avail q b D last rest now < batch
  · rw [if_pos hav] at hr
    subst hr
    exact hrefused _ nofun
  rw [if_neg hav] at hr
  subst hr
  rw [if_pos rfl]
  have hl : last ≤ (if now > last + D then now else last) ∧ (if now > last + D then now else last) ≤ now := by
    have := Bucket.lastLe_some.mp hnow
    split <;> omega
  rcases first with _ | f
  · exact hinv.elim
  · exact ⟨hinv.admitted _ _ batch hl.1 (Nat.le_of_not_lt hav) (Bucket.avail_le q b D last rest now),
      Bucket.lastLe_some.mpr hl.2⟩

/-- **Invariant over every arrival sequence** -/
theorem bucket_run_inv (q b D : Nat) (arr : List (Nat × Nat)) (h : TimesOk arr) :
    BucketInv q b D (Bucket.run q b D arr).1 (Bucket.run q b D arr).2.1 (Bucket.run q b D arr).2.2 ∧
    (∀ t, (∀ o ∈ arr, o.1 ≤ t) → (Bucket.run q b D arr).1.lastLe t) := by
  induction arr with
  | nil => exact ⟨rfl, fun _ _ => Bucket.lastLe_none _⟩
  | cons a older ih =>
    obtain ⟨t, n⟩ := a
    obtain ⟨hmono, hold⟩ := h
    obtain ⟨hinv, hlast⟩ := ih hold
    have hnow := hlast t hmono
    simp only [Bucket.run]
    obtain ⟨hinv', hnow'⟩ := Bucket.step_inv q b D _ _ _ t n hinv hnow
    exact ⟨hinv', fun t' ht' => hnow'.mono (ht' (t, n) List.mem_cons_self)⟩

theorem BucketInv.bound {q b D : Nat} {s : Bucket} {f adm : Nat} (h : BucketInv q b D s (some f) adm) {t : Nat} (hl : s.lastLe t) :
    adm * D ≤ (q + b) * D + q * (t - f) := by
  rcases s with _ | ⟨last, rest⟩
  · exact h.elim
  obtain ⟨hfl, hI⟩ := h
  have hlt := Bucket.lastLe_some.mp hl
  have hmono : q * (last - f) ≤ q * (t - f) := Nat.mul_le_mul_left _ (by omega)
  have : adm * D ≤ (adm + rest) * D := Nat.mul_le_mul_right _ (by omega)
  omega

theorem BucketInv.zero {q b D : Nat} {s : Bucket} {adm : Nat} (h : BucketInv q b D s none adm) : adm = 0 := by
  rcases s with _ | ⟨last, rest⟩
  · exact h
  · exact h.elim

/-- **Token bound.** The tokens admitted to one value from its first request up to any time `t` not earlier than the last
arrival satisfy `admitted ≤ q + b + q·(t − first)/d` (×D to avoid division). -/
theorem token_bound (q b D : Nat) (arr : List (Nat × Nat)) (h : TimesOk arr) (t f : Nat)
    (ht : ∀ o ∈ arr, o.1 ≤ t) (hf : (Bucket.run q b D arr).2.1 = some f) :
    (Bucket.run q b D arr).2.2 * D ≤ (q + b) * D + q * (t - f) := by
  obtain ⟨hinv, hlast⟩ := bucket_run_inv q b D arr h
  rw [hf] at hinv
  exact hinv.bound (hlast t ht)

/-- **A request is rejected only when the value's tokens are insufficient** (after the refill this call is entitled
to), or its threshold is 0, or the batch exceeds `q + b` -/
theorem reject_only_if_insufficient (q b D : Nat) (s : Bucket) (now batch : Nat)
    (h : (Bucket.step q b D s now batch).2 ≠ .pass) :
    q = 0 ∨ batch > q + b ∨
      ∃ last rest, s = some (last, rest) ∧
        (if now > last + D then min ((now - last) * q / D + rest) (q + b) else rest) < batch := by
  rw [Bucket.step_eq] at h
  by_cases hq : q = 0
  · exact Or.inl hq
  by_cases hb : batch > q + b
  · exact Or.inr (Or.inl hb)
  rw [if_neg hq, if_neg hb] at h
  rcases s with _ | ⟨last, rest⟩
  · exact absurd rfl h
  dsimp only at h
  by_cases hav : Bucket.avail q b D last rest now < batch
  · exact Or.inr (Or.inr ⟨_, _, rfl, hav⟩)
  · rw [if_neg hav] at h
    exact absurd rfl h

/-- the first request for a value is admitted (bucket filled) whenever it can be served at all -/
theorem first_request_admitted (q b D now batch : Nat) (hq : q ≠ 0) (hb : batch ≤ q + b) :
    (Bucket.step q b D none now batch).2 = .pass := by
  rw [Bucket.step_eq, if_neg hq, if_neg (Nat.not_lt.mpr hb)]

/-- threshold 0 (rule threshold or a per-value override of 0) always rejects -/
theorem zero_threshold_rejects (b D : Nat) (s : Bucket) (now batch : Nat) :
    (Bucket.step 0 b D s now batch).2 = .zeroThreshold := by
  rw [Bucket.step_eq, if_pos rfl]

/-! ## LRU layer: the controller touches only the requested value's cells -/

/-- the two cells of value `arg` seen as a bucket -/
def cellOf (c : HsCtrl) (arg : String) : Bucket :=
  match c.time.peek arg, c.token.peek arg with
  | some t, some r => some (t, r)
  | _, _ => none

/-- what a check for `arg` needs of the two counters: room for `arg` in each, and `arg` known to both or to neither -/
structure CellOk (c : HsCtrl) (arg : String) : Prop where
  roomT : c.time.Room arg
  roomK : c.token.Room arg
  sync : (c.time.peek arg).isSome = (c.token.peek arg).isSome

theorem CellOk.peeks {c : HsCtrl} {arg : String} (h : CellOk c arg) :
    c.time.peek arg = (cellOf c arg).map (·.1) ∧ c.token.peek arg = (cellOf c arg).map (·.2) := by
  have hs := h.sync
  unfold cellOf
  cases hpt : c.time.peek arg with
  | none =>
    cases hpk : c.token.peek arg with
    | none => exact ⟨rfl, rfl⟩
    | some r => rw [hpt, hpk] at hs; cases hs
  | some t =>
    cases hpk : c.token.peek arg with
    | none => rw [hpt, hpk] at hs; cases hs
    | some r => exact ⟨rfl, rfl⟩

/-- the one place where `checkReject` is taken apart and its signed arithmetic compared with `Bucket.step`'s. The parts: the two
counters change by operations on `arg` only (frame, keys invariant); the new state is the old one with those counters (rule);
the verdict and what the counters then hold for `arg` are the bucket's (refinement, `sync`) -/
theorem checkReject_spec (c : HsCtrl) (now : Nat) (arg : String) (batch : Nat) (h : CellOk c arg) :
    ∃ T K, Lru.Reach arg c.time T ∧ Lru.Reach arg c.token K ∧ (c.checkReject now arg batch).1 = { c with time := T, token := K } ∧
      ((c.checkReject now arg batch).2 = .pass ↔
        (Bucket.step (c.rule.thrFor arg) c.rule.burst (c.rule.durSec * 1000) (cellOf c arg) now batch).2 = .pass) ∧
      T.peek arg = (Bucket.step (c.rule.thrFor arg) c.rule.burst (c.rule.durSec * 1000) (cellOf c arg) now batch).1.map (·.1) ∧
      K.peek arg = (Bucket.step (c.rule.thrFor arg) c.rule.burst (c.rule.durSec * 1000) (cellOf c arg) now batch).1.map (·.2) := by
  -- set-up: the counters' results are named (`T K G`, with how they arise `rT rK rG` and what they hold for `arg`, `hT hK hG`) and
  -- `arg`'s two cells are read as the bucket `s`; then `hr` and `hb` are if-trees over the same cases
  have rT := Lru.Reach.add (l := c.time) (arg := arg) now
  have rK := Lru.Reach.add (l := c.token) (arg := arg) (c.rule.thrFor arg + c.rule.burst - batch)
  have rG := Lru.Reach.get (l := c.token) (arg := arg)
  have hT := Lru.addIfAbsent_peek c.time arg arg now h.roomT
  have hK := Lru.addIfAbsent_peek c.token arg arg (c.rule.thrFor arg + c.rule.burst - batch) h.roomK
  have hG := Lru.peek_get c.token arg arg
  generalize hr : c.checkReject now arg batch = r
  generalize hb : Bucket.step _ _ _ _ _ _ = b
  unfold HsCtrl.checkReject at hr
  unfold Bucket.step at hb
  dsimp only at hr hb
  rw [Lru.addIfAbsent_snd, Lru.addIfAbsent_snd, Lru.get_snd, if_neg (not_or.mpr ⟨h.roomT.cap_ne_zero, h.roomK.cap_ne_zero⟩)] at hr
  rw [if_pos rfl] at hT hK
  have hc1 := h.peeks.1
  have hc2 := h.peeks.2
  rw [hc1] at hT hr
  rw [hc2] at hK hG hr
  generalize (c.time.addIfAbsent arg now).fst = T at rT hT hr
  generalize (c.token.addIfAbsent arg _).fst = K at rK hK hr
  generalize (c.token.get arg).fst = G at rG hG hr
  generalize c.rule.durSec * 1000 = D at hr hb
  generalize c.rule.thrFor arg = q at hK hr hb
  generalize q + c.rule.burst = m at hK hr hb
  generalize cellOf c arg = s at *
  by_cases hq : q = 0
  · rw [if_pos hq] at hr hb; subst hr hb
    exact ⟨_, _, .same, .same, rfl, iff_of_false nofun nofun, hc1, hc2⟩
  rw [if_neg hq] at hr hb
  by_cases hm : batch > m
  · rw [if_pos hm] at hr hb; subst hr hb
    exact ⟨_, _, .same, .same, rfl, iff_of_false nofun nofun, hc1, hc2⟩
  rw [if_neg hm] at hr hb
  rcases s with _ | ⟨last, rest⟩
  · subst hr hb
    exact ⟨_, _, rT, rK, rfl, iff_of_true rfl rfl, hT, hK⟩
  dsimp only [Option.map_some] at hr hb hT hK hG
  have hcmp : ((now : Int) - last > (D : Int)) ↔ now > last + D := by omega
  by_cases hre : now > last + D
  · rw [if_pos hre] at hb
    rw [if_pos (hcmp.mpr hre), show ((now : Int) - last).toNat = now - last by omega] at hr
    by_cases h1 : (now - last) * q / D + rest > m
    · rw [if_pos h1] at hb hr
      have hnn : ¬ ((m : Int) - (batch : Int) < 0) := by omega
      rw [if_neg hnn] at hr
      subst hr hb
      exact ⟨_, _, rT.store _, rK.store _, rfl, iff_of_true rfl rfl, Lru.peek_store_self _ hT,
        (Lru.peek_store_self _ hK).trans (congrArg some (by dsimp only; omega))⟩
    · rw [if_neg h1] at hb hr
      by_cases h2 : (now - last) * q / D + rest < batch
      · rw [if_pos h2] at hb
        have hneg : (((now - last) * q / D : Nat) : Int) + (rest : Int) - (batch : Int) < 0 := by omega
        rw [if_pos hneg] at hr
        subst hr hb
        exact ⟨_, _, rT, rK, rfl, iff_of_false nofun nofun, hT, hK⟩
      · rw [if_neg h2] at hb
        have hnn : ¬ ((((now - last) * q / D : Nat) : Int) + (rest : Int) - (batch : Int) < 0) := by omega
        rw [if_neg hnn] at hr
        subst hr hb
        exact ⟨_, _, rT.store _, rK.store _, rfl, iff_of_true rfl rfl, Lru.peek_store_self _ hT,
          (Lru.peek_store_self _ hK).trans (congrArg some (by dsimp only; omega))⟩
  · rw [if_neg hre] at hb
    rw [if_neg (mt hcmp.mp hre)] at hr
    by_cases h3 : rest ≥ batch
    · rw [if_pos h3] at hr hb
      subst hr hb
      exact ⟨_, _, rT, rG.store _, rfl, iff_of_true rfl rfl, hT, Lru.peek_store_self _ hG⟩
    · rw [if_neg h3] at hr hb
      subst hr hb
      exact ⟨_, _, rT, rG, rfl, iff_of_false nofun nofun, hT, hG⟩

theorem checkReject_rule (c : HsCtrl) (now : Nat) (arg : String) (batch : Nat) (h : CellOk c arg) :
    (c.checkReject now arg batch).1.rule = c.rule := by
  obtain ⟨T, K, _, _, e, _⟩ := checkReject_spec c now arg batch h
  rw [e]

/-- **Frame / no cross-talk, one step**: a reject check for value `arg` leaves the cells of every other value untouched -/
theorem checkReject_frame (c : HsCtrl) (now : Nat) (arg other : String) (batch : Nat) (h : CellOk c arg) (hne : other ≠ arg) :
    (c.checkReject now arg batch).1.time.peek other = c.time.peek other ∧
    (c.checkReject now arg batch).1.token.peek other = c.token.peek other := by
  obtain ⟨T, K, hT, hK, e, _⟩ := checkReject_spec c now arg batch h
  rw [e]
  exact ⟨hT.frame h.roomT hne, hK.frame h.roomK hne⟩

theorem cellOf_frame (c : HsCtrl) (now : Nat) (arg other : String) (batch : Nat) (h : CellOk c arg) (hne : other ≠ arg) :
    cellOf (c.checkReject now arg batch).1 other = cellOf c other := by
  obtain ⟨f1, f2⟩ := checkReject_frame c now arg other batch h hne
  unfold cellOf
  rw [f1, f2]

/-- **Refinement / decision locality**: the verdict for value `arg` and the new contents of its two cells are exactly
what the per-value token bucket prescribes. Together with `checkReject_frame` this is "no cross-talk while the number of
distinct values stays within the capacity". -/
theorem checkReject_refines_bucket (c : HsCtrl) (now : Nat) (arg : String) (batch : Nat) (h : CellOk c arg) :
    ((c.checkReject now arg batch).2 = .pass ↔
        (Bucket.step (c.rule.thrFor arg) c.rule.burst (c.rule.durSec * 1000) (cellOf c arg) now batch).2 = .pass) ∧
    cellOf (c.checkReject now arg batch).1 arg =
        (Bucket.step (c.rule.thrFor arg) c.rule.burst (c.rule.durSec * 1000) (cellOf c arg) now batch).1 := by
  obtain ⟨T, K, _, _, e, hv, ht, hk⟩ := checkReject_spec c now arg batch h
  refine ⟨hv, ?_⟩
  generalize Bucket.step _ _ _ _ _ _ = b at ht hk ⊢
  rw [e]
  unfold cellOf
  rw [ht, hk]
  rcases b.1 with _ | ⟨t, r⟩ <;> rfl

theorem checkReject_step (c : HsCtrl) (now : Nat) (arg : String) (batch : Nat) (h : CellOk c arg) :
    LruStep c.time (c.checkReject now arg batch).1.time arg ∧ LruStep c.token (c.checkReject now arg batch).1.token arg := by
  obtain ⟨T, K, hT, hK, e, _⟩ := checkReject_spec c now arg batch h
  rw [e]
  exact ⟨hT.step h.roomT, hK.step h.roomK⟩

/-- the controller's invariant with respect to a universe `U` of parameter values that fits both counters -/
structure CtrlInv (c : HsCtrl) (U : List String) : Prop where
  capT : c.time.cap ≠ 0
  capK : c.token.cap ≠ 0
  fitT : U.length ≤ c.time.cap
  fitK : U.length ≤ c.token.cap
  subT : ∀ x ∈ c.time.keys, x ∈ U
  subK : ∀ x ∈ c.token.keys, x ∈ U
  ndT : c.time.keys.Nodup
  ndK : c.token.keys.Nodup
  sync : ∀ a, (c.time.peek a).isSome = (c.token.peek a).isSome

theorem CtrlInv.time {c : HsCtrl} {U : List String} (h : CtrlInv c U) : c.time.Fits U := ⟨h.capT, h.fitT, h.subT, h.ndT⟩

theorem CtrlInv.token {c : HsCtrl} {U : List String} (h : CtrlInv c U) : c.token.Fits U := ⟨h.capK, h.fitK, h.subK, h.ndK⟩

theorem CtrlInv.cellOk {c : HsCtrl} {U : List String} (h : CtrlInv c U) (arg : String) (ha : arg ∈ U) : CellOk c arg :=
  ⟨h.time.room ha, h.token.room ha, h.sync arg⟩

/-- a freshly built controller (capacity at least the number of distinct values) satisfies it -/
theorem CtrlInv.fresh (r : HsRule) (U : List String) (hq : r.metric = .qps) (hcap : r.capacity ≠ 0) (hU : U.length ≤ r.capacity) :
    CtrlInv (HsCtrl.new r) U := by
  unfold HsCtrl.new
  rw [hq]
  exact { capT := hcap, capK := hcap, fitT := hU, fitK := hU, subT := nofun, subK := nofun, ndT := List.nodup_nil,
          ndK := List.nodup_nil, sync := fun _ => rfl }

/-- the two counters keep knowing the same values -/
theorem checkReject_sync (c : HsCtrl) (now : Nat) (arg : String) (batch : Nat) (h : CellOk c arg)
    (hs : ∀ a, (c.time.peek a).isSome = (c.token.peek a).isSome) (a : String) :
    ((c.checkReject now arg batch).1.time.peek a).isSome = ((c.checkReject now arg batch).1.token.peek a).isSome := by
  by_cases ha : a = arg
  · subst ha
    obtain ⟨T, K, _, _, e, _, ht, hk⟩ := checkReject_spec c now a batch h
    rw [e]
    dsimp only
    rw [ht, hk, Option.isSome_map, Option.isSome_map]
  · obtain ⟨f1, f2⟩ := checkReject_frame c now arg a batch h ha
    rw [f1, f2]; exact hs a

/-- **the invariant is kept by every check for a value of the universe** -/
theorem checkReject_inv (c : HsCtrl) (U : List String) (now : Nat) (arg : String) (batch : Nat) (h : CtrlInv c U) (ha : arg ∈ U) :
    CtrlInv (c.checkReject now arg batch).1 U := by
  have hc := h.cellOk arg ha
  have hsync := checkReject_sync c now arg batch hc h.sync
  obtain ⟨T, K, rT, rK, e, _⟩ := checkReject_spec c now arg batch hc
  have fT := h.time.reach ha rT
  have fK := h.token.reach ha rK
  rw [e] at hsync ⊢
  exact { capT := fT.cap, capK := fK.cap, fitT := fT.fit, fitK := fK.fit, subT := fT.sub, subK := fK.sub, ndT := fT.nd,
          ndK := fK.nd, sync := hsync }

/-- run a sequence of checks `(time, value, batch)` (oldest first) through the controller, collecting the verdicts -/
def HsCtrl.runReject (c : HsCtrl) : List (Nat × String × Nat) → HsCtrl × List Bool
  | [] => (c, [])
  | (t, v, n) :: rest =>
    let (c1, r) := c.checkReject t v n
    let (c2, rs) := c1.runReject rest
    (c2, (r == .pass) :: rs)

/-- the same sequence seen by independent per-value buckets -/
def bucketsRun (rule : HsRule) (cells : String → Bucket) : List (Nat × String × Nat) → (String → Bucket) × List Bool
  | [] => (cells, [])
  | (t, v, n) :: rest =>
    let (s', r) := Bucket.step (rule.thrFor v) rule.burst (rule.durSec * 1000) (cells v) t n
    let (cells2, rs) := bucketsRun rule (fun x => if x = v then s' else cells x) rest
    (cells2, (r == .pass) :: rs)

/-- **No cross-talk, every history**: while the parameter values all belong to a set of distinct values no larger than the
rule's capacity, the controller's verdicts are exactly those of independent per-value token buckets, and nothing is evicted
(`CtrlInv`). -/
theorem run_refines_buckets (c : HsCtrl) (U : List String) (reqs : List (Nat × String × Nat)) (h : CtrlInv c U)
    (hU : ∀ r ∈ reqs, r.2.1 ∈ U) :
    (c.runReject reqs).2 = (bucketsRun c.rule (cellOf c) reqs).2 ∧
    CtrlInv (c.runReject reqs).1 U ∧
    (∀ v, cellOf (c.runReject reqs).1 v = (bucketsRun c.rule (cellOf c) reqs).1 v) := by
  induction reqs generalizing c with
  | nil => exact ⟨rfl, h, fun _ => rfl⟩
  | cons r rest ih =>
    obtain ⟨t, v, n⟩ := r
    have hv : v ∈ U := hU _ List.mem_cons_self
    have hU' : ∀ r ∈ rest, r.2.1 ∈ U := fun r hr => hU r (List.mem_cons_of_mem _ hr)
    have hc := h.cellOk v hv
    -- one step: the verdict, the value's own cell, the other cells, the invariant, the rule
    obtain ⟨hdec, hown⟩ := checkReject_refines_bucket c t v n hc
    have hframe := fun x hx => cellOf_frame c t v x n hc hx
    have hinv := checkReject_inv c U t v n h hv
    have hrule := checkReject_rule c t v n hc
    have hcells := eq_update hown hframe
    obtain ⟨i1, i2, i3⟩ := ih (c.checkReject t v n).1 hinv hU'
    rw [hrule, hcells] at i1 i3
    simp only [HsCtrl.runReject, bucketsRun]
    refine ⟨?_, i2, i3⟩
    rw [i1]
    exact congrArg (· :: _) (Bool.eq_iff_iff.mpr (by rw [beq_iff_eq, beq_iff_eq]; exact hdec))

/-- tokens admitted to value `v`: the batch counts of its admitted requests -/
def admittedTo (v : String) : List (Nat × String × Nat) → List Bool → Nat
  | (_, x, n) :: rest, ok :: oks => (if x = v ∧ ok = true then n else 0) + admittedTo v rest oks
  | _, _ => 0

/-- request times do not decrease from `t0` on (the list is oldest first, as the controller runs take it) -/
def TimesFrom (t0 : Nat) : List (Nat × String × Nat) → Prop
  | [] => True
  | (t, _, _) :: rest => t0 ≤ t ∧ TimesFrom t rest

theorem firstAfter_cases (first : Option Nat) (s : Bucket) (t : Nat) :
    firstAfter first s t = first ∨ firstAfter first s t = some t := by
  rcases first with _ | f
  · rcases s with _ | p
    · exact Or.inl rfl
    · exact Or.inr rfl
  · exact Or.inl rfl

/-- the many-value counterpart of `bucket_run_inv`, along `bucketsRun` (oldest first): the invariant of `v`'s bucket with the
tally of what `v` was admitted, for `BucketInv.bound`; the last refill is not after any bound of the times, which `bound` asks
for; and `first'`, the time of `v`'s first request, is the given one or the time (not before `t0`) of one of the requests, which
the statement of `controller_token_bound` names -/
theorem buckets_value_inv (rule : HsRule) (v : String) (cells : String → Bucket) (first : Option Nat) (adm t0 : Nat)
    (reqs : List (Nat × String × Nat))
    (hinv : BucketInv (rule.thrFor v) rule.burst (rule.durSec * 1000) (cells v) first adm) (hlast : (cells v).lastLe t0)
    (hs : TimesFrom t0 reqs) :
    ∃ first', BucketInv (rule.thrFor v) rule.burst (rule.durSec * 1000) ((bucketsRun rule cells reqs).1 v) first'
        (adm + admittedTo v reqs (bucketsRun rule cells reqs).2) ∧
      (∀ t, t0 ≤ t → (∀ r ∈ reqs, r.1 ≤ t) → ((bucketsRun rule cells reqs).1 v).lastLe t) ∧
      (first' = first ∨ ∃ r ∈ reqs, r.2.1 = v ∧ first' = some r.1 ∧ t0 ≤ r.1) := by
  induction reqs generalizing cells first adm t0 with
  | nil =>
    exact ⟨first, hinv, fun t ht _ => hlast.mono ht, Or.inl rfl⟩
  | cons a rest ih =>
    obtain ⟨t, x, n⟩ := a
    obtain ⟨ht0, hrest⟩ := hs
    simp only [bucketsRun, admittedTo]
    have hnow : (cells v).lastLe t := hlast.mono ht0
    generalize hsr : Bucket.step (rule.thrFor x) rule.burst (rule.durSec * 1000) (cells x) t n = sr
    -- what this request makes of `v`'s triple: for `x = v` it is `Bucket.step_inv`; otherwise nothing moves
    obtain ⟨first1, adm1, hadm, hinv1, hlast1, hfirst1⟩ : ∃ first1 adm1,
        adm1 = adm + (if x = v ∧ (sr.2 == BRes.pass) = true then n else 0) ∧
        BucketInv (rule.thrFor v) rule.burst (rule.durSec * 1000) (if v = x then sr.1 else cells v) first1 adm1 ∧
        (if v = x then sr.1 else cells v).lastLe t ∧ (first1 = first ∨ x = v ∧ first1 = some t) := by
      by_cases hx : x = v
      · subst hx hsr
        rw [if_pos rfl]
        obtain ⟨hinv', hnow'⟩ := Bucket.step_inv _ _ _ _ first adm t n hinv hnow
        refine ⟨_, _, ?_, hinv', hnow', (firstAfter_cases first _ t).imp id (fun h => ⟨rfl, h⟩)⟩
        -- the tally as `Bucket.step_inv` and as `admittedTo` write it
        by_cases hp : (Bucket.step (rule.thrFor x) rule.burst (rule.durSec * 1000) (cells x) t n).2 = BRes.pass
        · simp [hp]
        · simp [hp]
      · have hvx : ¬ v = x := fun e => hx e.symm
        rw [if_neg hvx, if_neg (fun h => hx h.1)]
        exact ⟨first, adm, rfl, hinv, hnow, Or.inl rfl⟩
    obtain ⟨first', i1, i2, i3⟩ := ih (fun y => if y = x then sr.1 else cells y) first1 adm1 t hinv1 hlast1 hrest
    refine ⟨first', ?_, ?_, ?_⟩
    · rw [hadm, Nat.add_assoc] at i1
      exact i1
    · intro t' ht' hall
      exact i2 t' (hall _ List.mem_cons_self) (fun r hr => hall r (List.mem_cons_of_mem _ hr))
    · rcases i3 with h | ⟨r, hr, h1, h2, h3⟩
      · rcases hfirst1 with h' | ⟨hx, h'⟩
        · exact Or.inl (h.trans h')
        · exact Or.inr ⟨(t, x, n), List.mem_cons_self, hx, h.trans h', ht0⟩
      · exact Or.inr ⟨r, List.mem_cons_of_mem _ hr, h1, h2, Nat.le_trans ht0 h3⟩

/-- **Token bound for every value, every history, through the controller model.** For a controller that has not seen value `v`
yet and requests over at most `capacity` distinct values, the tokens admitted to `v` never exceed `q_v + b + q_v·(t − f)/d`, where
`f` is the time of one of `v`'s requests and `t` any time from the last request on - whatever the other values do. -/
theorem controller_token_bound (c : HsCtrl) (U : List String) (reqs : List (Nat × String × Nat)) (v : String) (t0 : Nat)
    (h : CtrlInv c U) (hU : ∀ r ∈ reqs, r.2.1 ∈ U) (hnew : cellOf c v = none) (hs : TimesFrom t0 reqs) :
    admittedTo v reqs (c.runReject reqs).2 = 0 ∨
    ∃ r ∈ reqs, r.2.1 = v ∧ ∀ t, (∀ r' ∈ reqs, r'.1 ≤ t) →
      admittedTo v reqs (c.runReject reqs).2 * (c.rule.durSec * 1000) ≤
        (c.rule.thrFor v + c.rule.burst) * (c.rule.durSec * 1000) + c.rule.thrFor v * (t - r.1) := by
  obtain ⟨hv, _, _⟩ := run_refines_buckets c U reqs h hU
  rw [hv]
  have hinv0 : BucketInv (c.rule.thrFor v) c.rule.burst (c.rule.durSec * 1000) (cellOf c v) none 0 := by
    rw [hnew]
    rfl
  have hlast0 : (cellOf c v).lastLe t0 := hnew ▸ Bucket.lastLe_none t0
  obtain ⟨first', i1, i2, i3⟩ := buckets_value_inv c.rule v (cellOf c) none 0 t0 reqs hinv0 hlast0 hs
  rw [Nat.zero_add] at i1
  rcases i3 with rfl | ⟨r, hr, h1, rfl, h3⟩
  · exact Or.inl i1.zero
  · exact Or.inr ⟨r, hr, h1, fun t ht => i1.bound (i2 t (Nat.le_trans h3 (ht r hr)) ht)⟩

/-- the hotspot slot's dispatch (`HsCtrl.check`, called by `hsSlot`) is `checkReject` for a QPS rule with the reject strategy:
the step of `run_refines_buckets` is what the modelled slot chain runs -/
theorem check_is_checkReject (c : HsCtrl) (now : Nat) (arg : String) (batch : Nat) (hm : c.rule.metric = .qps) (hs : c.rule.strategy = .reject) :
    c.check now arg batch = c.checkReject now arg batch := by
  unfold HsCtrl.check; rw [hm, hs]

/-- non-vacuity of `controller_token_bound`'s premises -/
example : cellOf (HsCtrl.new { id := "h", metric := .qps, strategy := .reject, thr := 2, durSec := 1, maxCap := 2 }) "a" = none ∧
    TimesFrom 0 [(0, "a", 1), (5, "b", 1), (5, "a", 2)] := ⟨rfl, by simp [TimesFrom]⟩

/-- non-vacuity of `CtrlInv` -/
example : CtrlInv (HsCtrl.new { id := "h", metric := .qps, strategy := .reject, thr := 2, durSec := 1, maxCap := 2 }) ["a", "b"] :=
  CtrlInv.fresh _ _ rfl (by decide) (by decide)

example : (Bucket.run 2 1 1000 [(2500, 1), (1400, 1), (1001, 1), (1000, 3), (0, 3)]).2.2 = 6 := by decide
example : TimesOk [(2500, 1), (1400, 1), (1001, 1), (1000, 3), (0, 3)] := by
  refine ⟨by decide, by decide, by decide, by decide, by decide, trivial⟩

end Sentinel
