import Sentinel.Breaker
import Sentinel.BreakerSpec
import SentinelProofs.Lemmas.RingRead
import SentinelProofs.Lemmas.List
/-!
# C03 — circuit breakers follow the Closed / Open / Half-Open state machine

Theorems about `Sentinel/Breaker.lean`. Each operation is first put in closed form (`tryPass_eq`, `onComplete_eq`; `rollback`
is one already); the single-step facts, the notification theorems and the refinement of the Spec machine
(`Sentinel/BreakerSpec.lean`) read their case analysis off these. The refinement rests on the middle section: what `totals`
reads right after a recording is the completion history of the last `n` buckets (the ring read theorem at the breakers' counters).
-/
set_option autoImplicit false
namespace Sentinel
namespace Breaker

theorem tryPass_eq (b : Breaker) (now : Nat) :
    b.tryPass now =
      if b.state = .opn ∧ b.nextRetry ≤ now then
        ({ b with state := .halfOpen }, true, [⟨.halfOpen, .opn, b.rule.id, "-"⟩], true)
      else (b, decide (b.state = .closed), [], false) := by
  unfold tryPass
  cases b.state <;> simp

theorem tryPass_of_no_probe (b : Breaker) (now : Nat) (h : ¬ (b.state = .opn ∧ b.nextRetry ≤ now)) :
    b.tryPass now = (b, decide (b.state = .closed), [], false) := by
  rw [tryPass_eq, if_neg h]

/-- **Open rejects until the retry timeout has elapsed**, without changing anything -/
theorem open_rejects_until_retry (b : Breaker) (now : Nat) (hs : b.state = .opn) (ht : now < b.nextRetry) :
    b.tryPass now = (b, false, [], false) := by
  rw [tryPass_of_no_probe b now (fun h => Nat.not_le.mpr ht h.2), hs]
  rfl

/-- at or after the retry deadline the first request becomes the probe; the last component registers the rollback hook on its entry -/
theorem open_lets_one_probe_through (b : Breaker) (now : Nat) (hs : b.state = .opn) (ht : b.nextRetry ≤ now) :
    b.tryPass now = ({ b with state := .halfOpen }, true, [⟨.halfOpen, .opn, b.rule.id, "-"⟩], true) := by
  rw [tryPass_eq, if_pos ⟨hs, ht⟩]

/-- while Half-Open every further request is rejected (so exactly one probe per Half-Open phase) -/
theorem half_open_rejects (b : Breaker) (now : Nat) (hs : b.state = .halfOpen) :
    b.tryPass now = (b, false, [], false) := by
  rw [tryPass_of_no_probe b now (fun h => nomatch hs.symm.trans h.1), hs]
  rfl

/-- Closed admits everything and does nothing else -/
theorem closed_admits (b : Breaker) (now : Nat) (hs : b.state = .closed) : b.tryPass now = (b, true, [], false) := by
  rw [tryPass_of_no_probe b now (fun h => nomatch hs.symm.trans h.1), hs]
  rfl

/-- **No pass while Open before the deadline, no second probe** -/
theorem admitted_only_if (b : Breaker) (now : Nat) (h : (b.tryPass now).2.1 = true) :
    b.state = .closed ∨ (b.state = .opn ∧ b.nextRetry ≤ now) := by
  rw [tryPass_eq] at h
  split at h
  · exact Or.inr ‹_›
  · exact Or.inl (of_decide_eq_true h)

/-- a probe that is itself rejected (by another rule or a second breaker) returns the breaker to Open; the retry deadline is not renewed -/
theorem blocked_probe_reopens (b : Breaker) (hs : b.state = .halfOpen) :
    b.rollback true = ({ b with state := .opn }, [⟨.opn, .halfOpen, b.rule.id, "1"⟩]) := by
  unfold rollback
  rw [hs]
  rfl

/-- the hook does nothing when the entry passed, or when the breaker already left Half-Open -/
theorem rollback_noop (b : Breaker) (blocked : Bool) (h : blocked = false ∨ b.state ≠ .halfOpen) :
    b.rollback blocked = (b, []) := by
  unfold rollback
  rcases h with h | h
  · rw [h]
    rfl
  · rw [if_neg]
    intro hc
    exact h (eq_of_beq ((Bool.and_eq_true _ _).mp hc).2)

theorem onComplete_eq (b : Breaker) (now rt : Nat) (err : Bool) (ring' : List (Slot BCounter))
    (hw : b.recorded now rt err = some ring') :
    b.onComplete now rt err =
      let b1 : Breaker := { b with ring := ring' }
      match b.state with
      | .halfOpen =>
        if b.counts rt err then
          ({ b1 with state := .opn, nextRetry := now + b.rule.retryMs }, [⟨.opn, .halfOpen, b.rule.id, "1"⟩])
        else (({ b1 with state := .closed } : Breaker).resetMetric now, [⟨.closed, .halfOpen, b.rule.id, "-"⟩])
      | .closed =>
        if (b1.thresholdMet (b1.totals now).1 (b1.totals now).2).1 then
          ({ b1 with state := .opn, nextRetry := now + b.rule.retryMs },
            [⟨.opn, .closed, b.rule.id, (b1.thresholdMet (b1.totals now).1 (b1.totals now).2).2⟩])
        else (b1, [])
      | .opn => (b1, []) := by
  unfold onComplete
  simp only [hw]
  rfl

/-- `current_counter()` failed: nothing happens -/
theorem onComplete_none (b : Breaker) (now rt : Nat) (err : Bool) (hw : b.recorded now rt err = none) :
    b.onComplete now rt err = (b, []) := by
  unfold onComplete
  rw [hw]

/-- **The probe's outcome decides**: re-open with a new retry deadline, or close and `reset_metric` -/
theorem probe_outcome_decides (b : Breaker) (now rt : Nat) (err : Bool) (ring' : List (Slot BCounter))
    (hs : b.state = .halfOpen) (hw : b.recorded now rt err = some ring') :
    b.onComplete now rt err =
      if b.counts rt err then
        ({ b with ring := ring', state := .opn, nextRetry := now + b.rule.retryMs }, [⟨.opn, .halfOpen, b.rule.id, "1"⟩])
      else
        ((({ b with ring := ring', state := .closed } : Breaker)).resetMetric now, [⟨.closed, .halfOpen, b.rule.id, "-"⟩]) := by
  rw [onComplete_eq b now rt err ring' hw, hs]

/-- **Closing clears the statistics**: after `reset_metric` every counter that can be read now is zero -/
theorem closing_clears_stats (b : Breaker) (now : Nat) : (b.resetMetric now).totals now = (0, 0) := by
  unfold resetMetric totals foldSlots
  -- every slot the loop still selects has just been zeroed, so the accumulator never leaves (0, 0)
  refine foldl_fixed (fun i => ?_) _
  dsimp only
  rw [slotAt_map _ _ _ _ (by split <;> rfl)]
  by_cases hv : validAt b.rule.geo now (slotAt BCounter.zero b.ring i).stamp = true
  · rw [if_pos hv, if_pos hv]; rfl
  · rw [if_neg hv, if_neg hv]

/-- **Opens only when the threshold is met**, this completion counted (`thresholdMet_spelled` says what that means) -/
theorem opens_only_when_threshold_met (b : Breaker) (now rt : Nat) (err : Bool) (ring' : List (Slot BCounter))
    (hs : b.state = .closed) (hw : b.recorded now rt err = some ring') :
    let b1 : Breaker := { b with ring := ring' }
    let met := (b1.thresholdMet (b1.totals now).1 (b1.totals now).2).1
    ((b.onComplete now rt err).1.state = .opn ↔ met = true) ∧
    (met = true → (b.onComplete now rt err).1.nextRetry = now + b.rule.retryMs) ∧
    (met = false → b.onComplete now rt err = (b1, [])) := by
  -- with the state substituted, `b1` of the statement and of `onComplete_eq` are the same term
  obtain ⟨rule, state, nextRetry, ring⟩ := b
  subst hs
  rw [onComplete_eq _ now rt err ring' hw]
  dsimp only
  generalize (Breaker.thresholdMet _ _ _).1 = met
  cases met with
  | true => exact ⟨iff_of_true rfl rfl, fun _ => rfl, nofun⟩
  | false => exact ⟨iff_of_false nofun nofun, nofun, fun _ => rfl⟩

/-- what "threshold met" means, strategy by strategy; the ratios are compared as `f64` -/
theorem thresholdMet_spelled (b : Breaker) (target total : Nat) :
    (b.thresholdMet target total).1 = true ↔
      total ≥ b.rule.minReq ∧
      (match b.rule.strategy with
        | .errorCount => target ≥ b.rule.thr.toNatFloor
        | _ => F64.lt (F64.div (F64.ofNat target) (F64.ofNat total)) b.rule.thr = false) := by
  unfold thresholdMet
  cases b.rule.strategy <;> simp

/-- a completion while Open only records statistics -/
theorem open_completion_only_counts (b : Breaker) (now rt : Nat) (err : Bool) (ring' : List (Slot BCounter))
    (hs : b.state = .opn) (hw : b.recorded now rt err = some ring') :
    b.onComplete now rt err = ({ b with ring := ring' }, []) := by
  rw [onComplete_eq b now rt err ring' hw, hs]

/-- the notifications `evs` of a step announce exactly the change `before → after` -/
def Announces (before after : BState) (evs : List BEvent) (id : String) : Prop :=
  (before = after ∧ evs = []) ∨ (before ≠ after ∧ ∃ snap, evs = [⟨after, before, id, snap⟩])

theorem Announces.same (s : BState) (id : String) : Announces s s [] id := Or.inl ⟨rfl, rfl⟩
theorem Announces.change {s t : BState} (h : s ≠ t) (id snap : String) : Announces s t [⟨t, s, id, snap⟩] id :=
  Or.inr ⟨h, snap, rfl⟩

/-- **Every state change is announced exactly once with the correct previous state** by `try_pass` -/
theorem tryPass_announces (b : Breaker) (now : Nat) :
    Announces b.state (b.tryPass now).1.state (b.tryPass now).2.2.1 b.rule.id := by
  rw [tryPass_eq]
  split
  · next h =>
    rw [h.1]
    exact .change (fun h => BState.noConfusion h) _ _
  · exact .same _ _

/-- the rollback hook announces its state change the same way -/
theorem rollback_announces (b : Breaker) (blocked : Bool) :
    Announces b.state (b.rollback blocked).1.state (b.rollback blocked).2 b.rule.id := by
  unfold rollback
  split
  · next h =>
    rw [eq_of_beq ((Bool.and_eq_true _ _).mp h).2]
    exact .change (fun h => BState.noConfusion h) _ _
  · exact .same _ _

theorem resetMetric_state (b : Breaker) (now : Nat) : (b.resetMetric now).state = b.state := rfl

/-- `on_request_complete` announces its state change the same way -/
theorem onComplete_announces (b : Breaker) (now rt : Nat) (err : Bool) :
    Announces b.state (b.onComplete now rt err).1.state (b.onComplete now rt err).2 b.rule.id := by
  cases hw : b.recorded now rt err with
  | none =>
    rw [onComplete_none b now rt err hw]
    exact .same _ _
  | some ring' =>
    rw [onComplete_eq b now rt err ring' hw]
    obtain ⟨rule, state, nextRetry, ring⟩ := b
    cases state with
    | opn => exact .same _ _
    | halfOpen =>
      dsimp only
      split <;> exact .change (fun h => BState.noConfusion h) _ _
    | closed =>
      dsimp only
      split
      · exact .change (fun h => BState.noConfusion h) _ _
      · exact .same _ _

end Breaker

/-! ## the statistic window: what `totals` reads is the completion history of the last `n` buckets -/

/-- how a completion updates a counter (`hit` = counted as slow / failed): the update `Breaker.recorded` hands to `ringWrite`,
spelled the same so that the two are definitionally equal (`BRel.complete` applies `ring_inv_write bApp` to `b.recorded`) -/
def bApp (c : BCounter) (hit : Bool) : BCounter :=
  { target := if hit then c.target + 1 else c.target, total := c.total + 1 }

/-- what the loop of `totals` does with the pair (counted, all) -/
def addPair (a b : Nat × Nat) : Nat × Nat := (a.1 + b.1, a.2 + b.2)

instance : Std.Associative addPair := ⟨fun a b c => by simp only [addPair, Nat.add_assoc]⟩
instance : Std.Commutative addPair := ⟨fun a b => by simp only [addPair, Nat.add_comm]⟩

theorem foldr_addPair {α : Type} (l : List α) (f h : α → Nat) :
    (l.map (fun e => (f e, h e))).foldr addPair (0, 0) = ((l.map f).sum, (l.map h).sum) := by
  induction l with
  | nil => rfl
  | cons x l ih => rw [List.map_cons, List.foldr_cons, ih]; rfl

/-- **Within the statistic window**: right after a completion was recorded at `now`, the totals the breaker compares with its
thresholds count exactly the completions of the last `n` buckets — nothing older, nothing missed -/
theorem totals_eq_window (g : Geo) (hn : 0 < g.n) (hL : 0 < g.L) (ring : List (Slot BCounter))
    (evs : List (Nat × Bool)) (now : Nat) (hit : Bool)
    (hinv : RingInv bApp BCounter.zero g ring ((now, hit) :: evs) now) (hguard : g.interval < g.start now) :
    foldSlots BCounter.zero g ring (validAt g now) (fun (acc : Nat × Nat) c => (acc.1 + c.target, acc.2 + c.total)) (0, 0)
      = (((((now, hit) :: evs).filter (fun e => g.start now - g.interval + g.L ≤ g.start e.1 && g.start e.1 ≤ g.start now)).map
            (fun e => if e.2 then 1 else 0)).sum,
         ((((now, hit) :: evs).filter (fun e => g.start now - g.interval + g.L ≤ g.start e.1 && g.start e.1 ≤ g.start now)).map
            (fun _ => 1)).sum) := by
  -- right after the write `all_counter` selects the slots stamped in the last `n` buckets: one interval read of the pair, whose
  -- measure (counted, all) of a counter is the `addPair`-fold of the weights (1 if counted, 1) of its completions
  rw [← foldr_addPair]
  exact ring_interval_read addPair (0, 0) rfl bApp BCounter.zero g hn hL ring _ now hinv (fun c => (c.target, c.total))
    (fun e => (if e.2 then 1 else 0, 1))
    (bucketVal_fold bApp BCounter.zero g addPair (0, 0) (fun c => (c.target, c.total)) (fun h => (if h then 1 else 0, 1)) rfl
      (fun b e => by cases e <;> simp [bApp, addPair, Nat.add_comm]) _)
    (validAt g now) _ _ (validAt_eq_window_after_write bApp BCounter.zero g hn hL ring evs now hit hinv hguard) (by omega)

theorem brSlot_blocked (brs : List Breaker) (now : Nat) :
    (brSlot brs now).2.1 = brs.any (fun b => !(b.tryPass now).2.1) := by
  induction brs with
  | nil => rfl
  | cons b rest ih =>
    rw [List.any_cons, ← ih, brSlot]
    obtain ⟨b', ok, ev, hook⟩ := b.tryPass now
    cases ok <;> rfl

/-- the breaker slot blocks iff some breaker refuses -/
theorem brSlot_blocked_iff (brs : List Breaker) (now : Nat) :
    (brSlot brs now).2.1 = true ↔ ∃ b ∈ brs, (b.tryPass now).2.1 = false ∧
      ∀ b' ∈ brs.takeWhile (fun x => (x.tryPass now).2.1), (b'.tryPass now).2.1 = true := by
  rw [brSlot_blocked, List.any_eq_true]
  constructor
  · intro ⟨b, hb, h⟩
    exact ⟨b, hb, Bool.not_eq_true' _ ▸ h, List.all_eq_true.mp List.all_takeWhile⟩
  · intro ⟨b, hb, h, _⟩
    exact ⟨b, hb, by rw [h]; rfl⟩

/-! ## refinement: the breaker is the documented machine over exact windowed counts -/

theorem BRule.bucketCount_pos (r : BRule) : 0 < r.bucketCount := by
  unfold BRule.bucketCount
  split
  · exact Nat.one_pos
  · next h => omega

theorem BRule.geo_interval (r : BRule) : r.geo.interval = r.ivl := by
  unfold Geo.interval BRule.geo BRule.bucketCount
  split
  · simp
  · next h =>
    have hdiv : r.ivl % r.buckets = 0 := by omega
    exact Nat.mul_div_cancel' (Nat.dvd_of_mod_eq_zero hdiv)

theorem BRule.geo_L_pos (r : BRule) (h : 0 < r.ivl) : 0 < r.geo.L := by
  have hi := r.geo_interval
  unfold Geo.interval at hi
  apply Nat.pos_of_ne_zero
  intro h0
  rw [h0] at hi
  omega

/-- `reset_metric` right after a completion was recorded at `now` forgets exactly the completions of the current window -/
theorem ring_inv_reset (g : Geo) (hn : 0 < g.n) (hL : 0 < g.L) (ring : List (Slot BCounter))
    (evs : List (Nat × Bool)) (now : Nat) (hit : Bool)
    (hinv : RingInv bApp BCounter.zero g ring ((now, hit) :: evs) now) (hguard : g.interval < g.start now) :
    RingInv bApp BCounter.zero g
      (ring.map (fun s => if validAt g now s.stamp then { s with val := BCounter.zero } else s))
      (((now, hit) :: evs).filter (fun e => !(decide (g.start now - g.interval + g.L ≤ g.start e.1) && decide (g.start e.1 ≤ g.start now))))
      now :=
  hinv.clear hn (validAt g now) (fun s => decide (g.start now - g.interval + g.L ≤ s) && decide (s ≤ g.start now))
    (validAt_eq_window_after_write bApp BCounter.zero g hn hL ring evs now hit hinv hguard)

/-- the relation between the model breaker and the Spec breaker -/
structure BRel (b : Breaker) (s : SBreaker) (tl : Nat) : Prop where
  rule : b.rule = s.rule
  state : b.state = s.state
  retry : b.nextRetry = s.deadline
  inv : RingInv bApp BCounter.zero b.rule.geo b.ring s.hist tl

theorem BRel.new (r : BRule) (t0 : Nat) : BRel (Breaker.new r) { rule := r } t0 :=
  ⟨rfl, rfl, rfl, ring_inv_init _ _ _ _⟩

/-- operation sequences with non-decreasing completion times, past the first statistic interval -/
def OpsOk (g : Geo) : Nat → List BOp → Prop
  | _, [] => True
  | tl, .enter _ :: rest => OpsOk g tl rest
  | tl, .rollback _ :: rest => OpsOk g tl rest
  | tl, .complete now _ _ :: rest => tl ≤ now ∧ g.interval < g.start now ∧ OpsOk g now rest

/-- the Spec breaker a model breaker stands for, given the completion history: `BRel b s tl` says `s = b.abs s.hist` and the ring
invariant, so the proofs below take `s` in this form (`BRel.eq_abs`) and compare the two machines arm by arm -/
def Breaker.abs (b : Breaker) (hist : List (Nat × Bool)) : SBreaker := ⟨b.rule, b.state, b.nextRetry, hist⟩

theorem BRel.eq_abs {b : Breaker} {s : SBreaker} {tl : Nat} (h : BRel b s tl) : s = b.abs s.hist := by
  obtain ⟨rule, state, deadline, hist⟩ := s
  obtain ⟨h1, h2, h3, _⟩ := h
  simp only at h1 h2 h3
  subst h1 h2 h3
  rfl

/-- `BRel` is a simulation, entering and rolling back: same answer and notifications, and the relation still holds (ring and
history are not touched). The middle conjunct, here and in `BRel.complete`, lets a run carry `0 < b.rule.ivl` and
`OpsOk b.rule.geo` along -/
theorem BRel.step {b : Breaker} {s : SBreaker} {tl : Nat} (h : BRel b s tl) (o : BOp)
    (ho : ∀ now rt err, o ≠ .complete now rt err) :
    (b.stepOp o).2 = (s.stepOp o).2 ∧ (b.stepOp o).1.rule = b.rule ∧ BRel (b.stepOp o).1 (s.stepOp o).1 tl := by
  obtain ⟨hist, rfl⟩ : ∃ hist, s = b.abs hist := ⟨_, h.eq_abs⟩
  have hinv := h.inv
  obtain ⟨rule, state, nextRetry, ring⟩ := b
  cases o with
  | enter now =>
    -- both definitions unfolded: `SBreaker.enter` is `Breaker.tryPass` arm by arm, so the closed form would be a detour
    simp only [SBreaker.stepOp, SBreaker.enter, Breaker.stepOp, Breaker.tryPass, Breaker.abs]
    cases state with
    | closed => exact ⟨rfl, rfl, rfl, rfl, rfl, hinv⟩
    | halfOpen => exact ⟨rfl, rfl, rfl, rfl, rfl, hinv⟩
    | opn =>
      by_cases hd : now ≥ nextRetry
      · simp only [hd, ↓reduceIte, true_and]
        exact ⟨rfl, rfl, rfl, hinv⟩
      · simp only [hd, ↓reduceIte, true_and]
        exact ⟨rfl, rfl, rfl, hinv⟩
  | rollback bl => cases bl <;> cases state <;> exact ⟨rfl, rfl, rfl, rfl, rfl, hinv⟩
  | complete now rt err => exact absurd rfl (ho now rt err)

theorem SBreaker.inWindow_eq (s : SBreaker) (now t : Nat) :
    s.inWindow now t = (decide (s.rule.geo.start now - s.rule.geo.interval + s.rule.geo.L ≤ s.rule.geo.start t) &&
      decide (s.rule.geo.start t ≤ s.rule.geo.start now)) := by
  unfold SBreaker.inWindow
  rw [s.rule.geo_interval]
  rfl

theorem totals_eq_counts (b : Breaker) (hpos : 0 < b.rule.ivl) (evs : List (Nat × Bool)) (now : Nat) (hit : Bool)
    (hinv : RingInv bApp BCounter.zero b.rule.geo b.ring ((now, hit) :: evs) now)
    (hguard : b.rule.geo.interval < b.rule.geo.start now) :
    b.totals now = (b.abs ((now, hit) :: evs)).counts now := by
  unfold Breaker.totals SBreaker.counts
  rw [totals_eq_window b.rule.geo b.rule.bucketCount_pos (b.rule.geo_L_pos hpos) b.ring evs now hit hinv hguard]
  dsimp only
  rw [length_filter_eq_sum _ (fun x : Nat × Bool => x.2), length_eq_sum_ones]
  simp only [SBreaker.inWindow_eq]
  -- what is left are the projections `(b.abs _).hist` and `(b.abs _).rule`
  rfl

theorem thresholdMet_eq_trip (b : Breaker) (s : SBreaker) (h : b.rule = s.rule) (target total : Nat) :
    b.thresholdMet target total = s.trip target total := by
  unfold Breaker.thresholdMet SBreaker.trip
  rw [h]
  cases s.rule.strategy <;> rfl

/-- `BRel` is a simulation, completing: the recording is a ring write, the totals read back are the Spec's window counts, and
`reset_metric` drops what the Spec drops -/
theorem BRel.complete {b : Breaker} {s : SBreaker} {tl : Nat} (h : BRel b s tl) (now rt : Nat) (err : Bool)
    (hpos : 0 < b.rule.ivl) (htl : tl ≤ now) (hguard : b.rule.geo.interval < b.rule.geo.start now) :
    (b.stepOp (.complete now rt err)).2 = (s.stepOp (.complete now rt err)).2 ∧
      (b.stepOp (.complete now rt err)).1.rule = b.rule ∧
      BRel (b.stepOp (.complete now rt err)).1 (s.stepOp (.complete now rt err)).1 now := by
  obtain ⟨hist, rfl⟩ : ∃ hist, s = b.abs hist := ⟨_, h.eq_abs⟩
  have hn := b.rule.bucketCount_pos
  have hL := b.rule.geo_L_pos hpos
  obtain ⟨ring', hw, hinv'⟩ := ring_inv_write bApp BCounter.zero b.rule.geo hn hL b.ring hist tl now (b.counts rt err)
    h.inv htl (by omega)
  have htot := totals_eq_counts { b with ring := ring' } hpos hist now (b.counts rt err) hinv' hguard
  have htrip := thresholdMet_eq_trip { b with ring := ring' }
    (({ b with ring := ring' } : Breaker).abs ((now, b.counts rt err) :: hist)) rfl
  have hhit : (b.abs hist).hit rt err = b.counts rt err := rfl
  -- `simp only` puts the Spec's `complete` in the shape of `onComplete_eq` (the pair of counts projected), so the arms can be compared
  simp only [SBreaker.stepOp, Breaker.stepOp, SBreaker.complete, Breaker.onComplete_eq b now rt err ring' hw, hhit]
  -- in this order: `hit` and the fields of `b` are named in `htot`, `htrip`, `hinv'` too, so that they still fit the goal below
  generalize b.counts rt err = hit at *
  obtain ⟨rule, state, nextRetry, ring⟩ := b
  simp only [Breaker.abs] at htot htrip ⊢
  cases state with
  | opn => exact ⟨rfl, rfl, rfl, rfl, rfl, hinv'⟩
  | closed =>
    dsimp only
    -- the step that matters: the ring's totals are the Spec's window counts, so both sides take the same branch
    rw [htot, htrip]
    split
    · next ht =>
      simp only [ht, ↓reduceIte, true_and]
      exact ⟨rfl, rfl, rfl, hinv'⟩
    · next ht =>
      simp only [ht, Bool.false_eq_true, ↓reduceIte, true_and]
      exact ⟨rfl, rfl, rfl, hinv'⟩
  | halfOpen =>
    cases hit with
    | true => exact ⟨rfl, rfl, rfl, rfl, rfl, hinv'⟩
    | false =>
      -- closing: `reset_metric` zeroes the current window, the Spec drops its completions
      refine ⟨rfl, rfl, rfl, rfl, rfl, ?_⟩
      simp only [SBreaker.inWindow_eq]
      exact ring_inv_reset rule.geo hn hL ring' hist now false hinv' hguard

theorem complete_refines (b : Breaker) (s : SBreaker) (tl now rt : Nat) (err : Bool) (h : BRel b s tl)
    (hpos : 0 < b.rule.ivl) (htl : tl ≤ now) (hguard : b.rule.geo.interval < b.rule.geo.start now) :
    (b.stepOp (.complete now rt err)).2 = (s.stepOp (.complete now rt err)).2 ∧
      BRel (b.stepOp (.complete now rt err)).1 (s.stepOp (.complete now rt err)).1 now :=
  have ⟨h1, _, h2⟩ := h.complete now rt err hpos htl hguard
  ⟨h1, h2⟩

/-- **Refinement**: every operation sequence gives the same answers and notifications on the breaker and on the Spec machine -/
theorem breaker_refines_spec (b : Breaker) (s : SBreaker) (tl : Nat) (ops : List BOp) (h : BRel b s tl)
    (hpos : 0 < b.rule.ivl) (hops : OpsOk b.rule.geo tl ops) :
    (b.run ops).2 = (s.run ops).2 ∧ ∃ tl', BRel (b.run ops).1 (s.run ops).1 tl' := by
  induction ops generalizing b s tl with
  | nil => exact ⟨rfl, tl, h⟩
  | cons o os ih =>
    obtain ⟨tl', ⟨h1, hr, h2⟩, hrest⟩ : ∃ tl', ((b.stepOp o).2 = (s.stepOp o).2 ∧ (b.stepOp o).1.rule = b.rule ∧
        BRel (b.stepOp o).1 (s.stepOp o).1 tl') ∧ OpsOk b.rule.geo tl' os := by
      cases o with
      | complete now rt err => exact ⟨now, h.complete now rt err hpos hops.1 hops.2.1, hops.2.2⟩
      | enter _ | rollback _ => exact ⟨tl, h.step _ (fun _ _ _ h => BOp.noConfusion h), hops⟩
    obtain ⟨h3, h4⟩ := ih _ _ tl' h2 (hr ▸ hpos) (hr ▸ hrest)
    simp only [Breaker.run, SBreaker.run]
    exact ⟨by rw [h1, h3], h4⟩

/-- closing forgets only what could never be read again, so "the statistics are emptied" (code) and "the completions of the
current window are dropped" (Spec) are the same for every later count -/
theorem counts_forget_old (s : SBreaker) (hpos : 0 < s.rule.ivl) (now later : Nat) (hl : now ≤ later) (e : Nat × Bool)
    (hold : s.inWindow now e.1 = false) (hpast : e.1 ≤ now) : s.inWindow later e.1 = false := by
  rw [SBreaker.inWindow_eq, Bool.and_eq_false_iff, decide_eq_false_iff_not, decide_eq_false_iff_not] at hold ⊢
  have h1 := s.rule.geo.start_mono hpast
  have h2 := s.rule.geo.start_mono hl
  -- the bucket of `e` is not after the window at `now`, so it is before it, and later windows begin later
  exact Or.inl (by omega)

/-- **From creation on**: a breaker built for a rule answers as the documented machine does on the exact windowed counts of its
completion history -/
theorem fresh_breaker_refines_spec (r : BRule) (hpos : 0 < r.ivl) (ops : List BOp) (hops : OpsOk r.geo 0 ops) :
    ((Breaker.new r).run ops).2 = (({ rule := r } : SBreaker).run ops).2 :=
  (breaker_refines_spec (Breaker.new r) { rule := r } 0 ops (BRel.new r 0) hpos hops).1

/-! ## non-vacuity -/
example : ((Breaker.new ⟨"b", .errorCount, 1000, 1, 1000, 2, 50, F64.ofNat 1⟩).onComplete 1700000000100 10 true).1.state = .opn := by
  decide

/-- a two-bucket error-count rule; trip, reject, probe that fails, probe that closes, a stale error that no longer counts -/
def exRule : BRule := ⟨"b", .errorCount, 1000, 1, 2000, 2, 50, F64.ofNat 2⟩
def exOps : List BOp :=
  [.enter 1700000000000, .complete 1700000000100 10 true, .complete 1700000000200 10 true, .enter 1700000000300,
   .enter 1700000001300, .complete 1700000001400 10 true, .enter 1700000002500, .rollback true, .enter 1700000002600,
   .complete 1700000002700 10 false, .complete 1700000002800 10 true, .enter 1700000002900]
example : OpsOk exRule.geo 0 exOps := by
  refine ⟨by decide, by decide, by decide, by decide, by decide, by decide, by decide, by decide, by decide, by decide, trivial⟩
example : ((Breaker.new exRule).run exOps).2.map (·.1) =
    [some true, none, none, some false, some true, none, some true, none, some true, none, none, some true] := by decide
example : (({ rule := exRule } : SBreaker).run exOps).2 = ((Breaker.new exRule).run exOps).2 := by decide

end Sentinel
