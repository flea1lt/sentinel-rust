import Sentinel.World
import SentinelProofs.Lemmas.Lru
/-!
# C07 — throttling paces admissions, bounds queueing and really delays the caller

Flow throttling: `throttleCheck` (one controller, nanoseconds) and `flowSlot` (the caller is put to sleep inside the
slot). Hotspot throttling: `HsCtrl.checkThrottle` per value (milliseconds) — stated on the per-value cell.
-/
set_option autoImplicit false
namespace Sentinel

/-- the spacing one request of `batch` tokens costs under allowed threshold `thr` -/
def flowCost (thr : F64) (statIntervalNs batch : Nat) : Nat :=
  (F64.mul (F64.div (F64.ofNat batch) thr) (F64.ofNat statIntervalNs)).toNatFloor

/-- the "always rejected" inputs: threshold ≤ 0 or batch above the threshold -/
def neverServable (thr : F64) (batch : Nat) : Bool := !F64.lt F64.zero thr || F64.ltNat thr batch

/-- the four outcomes of `throttleCheck` for a request of at least one token -/
theorem throttleCheck_cases (id : String) (thr : F64) (ivl maxq last now batch : Nat) (hb : batch ≠ 0) :
    (neverServable thr batch = true ∧ ∃ r s, throttleCheck id thr ivl maxq last now batch = (last, .blocked r s)) ∨
    (neverServable thr batch = false ∧ last + flowCost thr ivl batch ≤ now ∧
        throttleCheck id thr ivl maxq last now batch = (now, .pass)) ∨
    (neverServable thr batch = false ∧ last + flowCost thr ivl batch > now ∧ last + flowCost thr ivl batch - now > maxq ∧
        ∃ r s, throttleCheck id thr ivl maxq last now batch = (last, .blocked r s)) ∨
    (neverServable thr batch = false ∧ last + flowCost thr ivl batch > now ∧ last + flowCost thr ivl batch - now ≤ maxq ∧
        throttleCheck id thr ivl maxq last now batch =
          (last + flowCost thr ivl batch, .wait (last + flowCost thr ivl batch - now))) := by
  unfold throttleCheck neverServable
  dsimp only
  have hcost : (F64.mul (F64.div (F64.ofNat batch) thr) (F64.ofNat ivl)).toNatFloor = flowCost thr ivl batch := rfl
  rw [if_neg hb, hcost]
  generalize flowCost thr ivl batch = cost
  cases F64.lt F64.zero thr with
  | false => exact Or.inl ⟨rfl, _, _, rfl⟩
  | true =>
    cases F64.ltNat thr batch with
    | true => exact Or.inl ⟨rfl, _, _, rfl⟩
    | false =>
      refine Or.inr ?_
      simp only [Bool.not_true, Bool.or_self, Bool.false_eq_true, if_false, true_and]
      by_cases hle : last + cost ≤ now
      · rw [if_pos hle]; exact Or.inl ⟨hle, rfl⟩
      · rw [if_neg hle]
        refine Or.inr ?_
        by_cases hq : last + cost - now > maxq
        · rw [if_pos hq]; exact Or.inl ⟨Nat.lt_of_not_le hle, hq, _, _, rfl⟩
        · rw [if_neg hq]; exact Or.inr ⟨Nat.lt_of_not_le hle, Nat.le_of_not_lt hq, rfl⟩

/-- **Decision.** A request of at least one token is rejected iff it can never be served or its wait would exceed the
maximum queueing time -/
theorem flow_block_iff (id : String) (thr : F64) (ivl maxq last now batch : Nat) (hb : batch ≠ 0) :
    (∃ r s, (throttleCheck id thr ivl maxq last now batch).2 = .blocked r s) ↔
      neverServable thr batch = true ∨ (last + flowCost thr ivl batch > now ∧ last + flowCost thr ivl batch - now > maxq) := by
  have hserv : neverServable thr batch = false → ¬ neverServable thr batch = true := fun h h' => Bool.false_ne_true (h ▸ h')
  rcases throttleCheck_cases id thr ivl maxq last now batch hb with
    ⟨h1, r, s, e⟩ | ⟨h1, h2, e⟩ | ⟨h1, h2, h3, r, s, e⟩ | ⟨h1, h2, h3, e⟩
  · rw [e]
    exact iff_of_true ⟨r, s, rfl⟩ (Or.inl h1)
  · rw [e]
    exact iff_of_false (fun ⟨_, _, h⟩ => nomatch h) (fun h => h.elim (hserv h1) (fun h => Nat.not_lt.mpr h2 h.1))
  · rw [e]
    exact iff_of_true ⟨r, s, rfl⟩ (Or.inr ⟨h2, h3⟩)
  · rw [e]
    exact iff_of_false (fun ⟨_, _, h⟩ => nomatch h) (fun h => h.elim (hserv h1) (fun h => Nat.not_lt.mpr h3 h.2))

theorem flow_zero_batch (id : String) (thr : F64) (ivl maxq last now : Nat) :
    throttleCheck id thr ivl maxq last now 0 = (last, .pass) := by
  simp [throttleCheck]

/-- **Queueing is bounded**: a queued request waits at most the maximum queueing time -/
theorem flow_wait_le_max (id : String) (thr : F64) (ivl maxq last now batch ns : Nat)
    (h : (throttleCheck id thr ivl maxq last now batch).2 = .wait ns) : ns ≤ maxq := by
  by_cases hb : batch = 0
  · subst hb
    rw [flow_zero_batch] at h
    cases h
  · rcases throttleCheck_cases id thr ivl maxq last now batch hb with
      ⟨h1, r, s, e⟩ | ⟨h1, h2, e⟩ | ⟨h1, h2, h3, r, s, e⟩ | ⟨h1, h2, h3, e⟩
    all_goals rw [e] at h
    · cases h
    · cases h
    · cases h
    · simp only [FlowRes.wait.injEq] at h
      omega

/-- **Pacing**: whenever a request is admitted (at once or queued), the new scheduled time is at least one cost after the
previous one, is never in the past, and equals arrival + wait -/
theorem flow_spacing (id : String) (thr : F64) (ivl maxq last now batch : Nat) (hb : batch ≠ 0)
    (h : ∀ r s, (throttleCheck id thr ivl maxq last now batch).2 ≠ .blocked r s) :
    (throttleCheck id thr ivl maxq last now batch).1 ≥ last + flowCost thr ivl batch ∧
    (throttleCheck id thr ivl maxq last now batch).1 ≥ now ∧
      (∀ ns, (throttleCheck id thr ivl maxq last now batch).2 = .wait ns →
        (throttleCheck id thr ivl maxq last now batch).1 = now + ns) ∧
      ((throttleCheck id thr ivl maxq last now batch).2 = .pass → (throttleCheck id thr ivl maxq last now batch).1 = now) := by
  rcases throttleCheck_cases id thr ivl maxq last now batch hb with
    ⟨h1, r, s, e⟩ | ⟨h1, h2, e⟩ | ⟨h1, h2, h3, r, s, e⟩ | ⟨h1, h2, h3, e⟩
  · rw [e] at h; exact absurd rfl (h r s)
  · rw [e]
    exact ⟨h2, Nat.le_refl _, nofun, fun _ => rfl⟩
  · rw [e] at h; exact absurd rfl (h r s)
  · rw [e]
    refine ⟨Nat.le_refl _, ?_, fun ns hns => ?_, nofun⟩
    · dsimp only
      omega
    · simp only [FlowRes.wait.injEq] at hns
      dsimp only
      omega

/-- a rejected request leaves the schedule untouched -/
theorem flow_block_keeps_schedule (id : String) (thr : F64) (ivl maxq last now batch : Nat) (r s : String)
    (h : (throttleCheck id thr ivl maxq last now batch).2 = .blocked r s) :
    (throttleCheck id thr ivl maxq last now batch).1 = last := by
  by_cases hb : batch = 0
  · subst hb; rw [flow_zero_batch]
  · rcases throttleCheck_cases id thr ivl maxq last now batch hb with
      ⟨h1, r', s', e⟩ | ⟨h1, h2, e⟩ | ⟨h1, h2, h3, r', s', e⟩ | ⟨h1, h2, h3, e⟩
    · rw [e]
    · rw [e] at h; cases h
    · rw [e]
    · rw [e] at h; cases h

/-- **The caller is really held**: a flow slot with one throttling controller returns with the clock at the scheduled
time of the request (arrival + wait); the protected code cannot start earlier -/
theorem flow_caller_held (c : FlowCtrl) (node : Node) (now batch ns : Nat) (c' : FlowCtrl)
    (h : c.step node now batch = (c', .wait ns)) :
    (flowSlot [c] node now batch).2.1 = now + ns := by
  simp only [flowSlot, h]

/-- the clock never goes backwards through the flow slot, whatever the controllers -/
theorem flowSlot_clock_mono (ctrls : List FlowCtrl) (node : Node) (now batch : Nat) :
    now ≤ (flowSlot ctrls node now batch).2.1 := by
  induction ctrls generalizing now with
  | nil => exact Nat.le_refl _
  | cons c rest ih =>
    unfold flowSlot
    cases hs : c.step node now batch with
    | mk c' r =>
      cases r with
      | pass => exact ih now
      | wait ns => exact Nat.le_trans (Nat.le_add_right _ _) (ih (now + ns))
      | blocked a b => exact Nat.le_refl _

/-- run arrivals `(time ns, batch)` (newest first); returns the schedule variable and the list of scheduled times with
the cost each admitted request was charged (newest first). A pass of `n = 0` tokens is not scheduled: `throttleCheck` returns
`last` unchanged and charges nothing -/
def throttleRun (id : String) (thr : F64) (ivl maxq : Nat) : List (Nat × Nat) → Nat × List (Nat × Nat)
  | [] => (0, [])
  | (t, n) :: older =>
    let (last, sched) := throttleRun id thr ivl maxq older
    let (last', r) := throttleCheck id thr ivl maxq last t n
    match r with
    | .blocked _ _ => (last', sched)
    | _ => if n = 0 then (last', sched) else (last', (last', flowCost thr ivl n) :: sched)

/-- consecutive scheduled times are at least the later request's cost apart -/
def Spaced : List (Nat × Nat) → Prop
  | [] => True
  | [_] => True
  | a :: b :: rest => a.1 ≥ b.1 + a.2 ∧ Spaced (b :: rest)

/-- **Pacing over every history**: the scheduled times of admitted requests are spaced by at least the cost of the later
request, whatever the arrival instants (bursts included). The second part, that the newest scheduled time is the schedule
variable, is what the induction carries to compare the next request with -/
theorem flow_spacing_run (id : String) (thr : F64) (ivl maxq : Nat) (arr : List (Nat × Nat)) :
    Spaced (throttleRun id thr ivl maxq arr).2 ∧
      (∀ a, (throttleRun id thr ivl maxq arr).2.head? = some a → a.1 = (throttleRun id thr ivl maxq arr).1) := by
  induction arr with
  | nil => exact ⟨trivial, fun _ h => by cases h⟩
  | cons a older ih =>
    obtain ⟨t, n⟩ := a
    simp only [throttleRun]
    rcases hrun : throttleRun id thr ivl maxq older with ⟨last, sched⟩
    rw [hrun] at ih
    obtain ⟨hsp, hhead⟩ := ih
    dsimp only at hsp hhead ⊢
    by_cases hn : n = 0
    · subst hn
      rw [flow_zero_batch]
      exact ⟨hsp, hhead⟩
    rcases hchk : throttleCheck id thr ivl maxq last t n with ⟨last', r⟩
    cases r with
    | blocked x y =>
      have hres : (throttleCheck id thr ivl maxq last t n).2 = .blocked x y := by rw [hchk]
      have hkeep := flow_block_keeps_schedule id thr ivl maxq last t n x y hres
      rw [hchk] at hkeep
      subst hkeep
      exact ⟨hsp, hhead⟩
    | pass | wait =>
      dsimp only
      rw [if_neg hn]
      have hnb : ∀ r s, (throttleCheck id thr ivl maxq last t n).2 ≠ .blocked r s := by
        rw [hchk]
        exact nofun
      have hs := flow_spacing id thr ivl maxq last t n hn hnb
      rw [hchk] at hs
      refine ⟨?_, fun a h => congrArg (·.1) (Option.some.inj h).symm⟩
      cases sched with
      | nil => trivial
      | cons b rest =>
        have := hhead b rfl
        refine ⟨?_, hsp⟩
        dsimp only
        omega

/-! ### hotspot throttling, per value -/

/-- what `checkThrottle` does to one value's last-scheduled time (ms): `none` = first request -/
def hsThrottleStep (q durSec maxq : Nat) (cell : Option Nat) (now batch : Nat) : Option Nat × HsRes :=
  if q = 0 then (cell, .blocked 0 "zero-threshold") else
  let cost := throttleCost batch durSec q
  match cell with
  | none => (some now, .pass)
  | some last =>
    let expected := last + cost
    if expected ≤ now ∨ expected - now < maxq then
      if expected > now then (some expected, .wait (expected - now)) else (some now, .pass)
    else (some last, .blocked q "queue-too-long")

/-- a value seen before: the decision as a list of disjoint cases, in terms of the time `last + cost` the request is entitled
to; the three theorems below read their case off this -/
theorem hsThrottleStep_some (q durSec maxq last now batch : Nat) :
    hsThrottleStep q durSec maxq (some last) now batch =
      if q = 0 then (some last, .blocked 0 "zero-threshold")
      else if last + throttleCost batch durSec q ≤ now then (some now, .pass)
      else if last + throttleCost batch durSec q - now < maxq then
        (some (last + throttleCost batch durSec q), .wait (last + throttleCost batch durSec q - now))
      else (some last, .blocked q "queue-too-long") := by
  unfold hsThrottleStep
  dsimp only
  generalize last + throttleCost batch durSec q = due
  by_cases hq : q = 0
  · rw [if_pos hq, if_pos hq]
  rw [if_neg hq, if_neg hq]
  by_cases hle : due ≤ now
  · rw [if_pos (Or.inl hle), if_neg (Nat.not_lt.mpr hle), if_pos hle]
  rw [if_neg hle]
  by_cases hlt : due - now < maxq
  · rw [if_pos (Or.inr hlt), if_pos (Nat.lt_of_not_le hle), if_pos hlt]
  · rw [if_neg (not_or.mpr ⟨hle, hlt⟩), if_neg hlt]

/-- a queued request waits less than the maximum queueing time and is scheduled exactly one cost after the previous one -/
theorem hs_throttle_wait (q durSec maxq last now batch w : Nat) (cell' : Option Nat)
    (h : hsThrottleStep q durSec maxq (some last) now batch = (cell', .wait w)) :
    cell' = some (now + w) ∧ w < maxq ∧ now + w = last + throttleCost batch durSec q := by
  rw [hsThrottleStep_some] at h
  split at h
  · cases h
  split at h
  · cases h
  split at h
  · next hle hlt =>
    cases h
    exact ⟨congrArg some (by omega), hlt, by omega⟩
  · cases h

/-- a request admitted at once finds its slot free: the previous schedule plus one cost is not in the future -/
theorem hs_throttle_pass (q durSec maxq last now batch : Nat) (cell' : Option Nat)
    (h : hsThrottleStep q durSec maxq (some last) now batch = (cell', .pass)) :
    cell' = some now ∧ last + throttleCost batch durSec q ≤ now := by
  rw [hsThrottleStep_some] at h
  split at h
  · cases h
  split at h
  · next hle =>
    cases h
    exact ⟨rfl, hle⟩
  split at h
  · cases h
  · cases h

/-- a rejected request (threshold > 0) would have waited at least the maximum queueing time; the schedule is untouched -/
theorem hs_throttle_blocked (q durSec maxq last now batch snap : Nat) (why : String) (cell' : Option Nat) (hq : q ≠ 0)
    (h : hsThrottleStep q durSec maxq (some last) now batch = (cell', .blocked snap why)) :
    cell' = some last ∧ last + throttleCost batch durSec q > now ∧ last + throttleCost batch durSec q - now ≥ maxq := by
  rw [hsThrottleStep_some, if_neg hq] at h
  split at h
  · cases h
  split at h
  · cases h
  · next hle hlt =>
    cases h
    exact ⟨rfl, Nat.lt_of_not_le hle, Nat.le_of_not_lt hlt⟩

/-- the first request for a value passes undelayed (its schedule starts now) -/
theorem hs_throttle_first (q durSec maxq now batch : Nat) (hq : q ≠ 0) :
    hsThrottleStep q durSec maxq none now batch = (some now, .pass) := by
  simp [hsThrottleStep, hq]

/-- the hotspot slot holds the caller for the wait the checker returned, converted to nanoseconds -/
theorem hs_caller_held (sleepNs : Nat → Nat) (c c' : HsCtrl) (now batch w : Nat) (args : Option (List String))
    (atts : Option (List (String × String))) (arg : String)
    (ha : extractArgs c.rule args atts = some arg) (h : c.check (now / 1000000) arg batch = (c', .wait w)) :
    (hsSlot sleepNs [c] now args atts batch).2.1 = now + sleepNs w := by
  simp only [hsSlot, ha, h]

/-- the unit conversion the world's hotspot slot sleeps with (`World.hsSleepNs` is `hsWaitToNs` by default; `hs_caller_held`
holds for any conversion): milliseconds to nanoseconds -/
theorem hsWaitToNs_is_ms_to_ns (ms : Nat) : hsWaitToNs ms = ms * 1000000 := rfl

/-- the one place where `checkThrottle` is taken apart -/
theorem checkThrottle_spec (c : HsCtrl) (now : Nat) (arg : String) (batch : Nat) (h : c.time.Room arg) :
    ∃ T, Lru.Reach arg c.time T ∧ (c.checkThrottle now arg batch).1 = { c with time := T } ∧
      (c.checkThrottle now arg batch).2 =
        (hsThrottleStep (c.rule.thrFor arg) c.rule.durSec c.rule.maxQueueMs (c.time.peek arg) now batch).2 ∧
      T.peek arg = (hsThrottleStep (c.rule.thrFor arg) c.rule.durSec c.rule.maxQueueMs (c.time.peek arg) now batch).1 := by
  have rT := Lru.Reach.add (l := c.time) (arg := arg) now
  have hT := Lru.addIfAbsent_peek c.time arg arg now h
  rw [if_pos rfl] at hT
  generalize hr : c.checkThrottle now arg batch = r
  generalize hb : hsThrottleStep _ _ _ _ _ _ = b
  unfold HsCtrl.checkThrottle at hr
  unfold hsThrottleStep at hb
  dsimp only at hr hb
  rw [Lru.addIfAbsent_snd, if_neg h.cap_ne_zero] at hr
  generalize (c.time.addIfAbsent arg now).fst = T at rT hT hr
  generalize c.rule.thrFor arg = q at hr hb
  generalize throttleCost _ _ _ = cost at hr hb
  generalize hcell : c.time.peek arg = cell at hT hr hb
  by_cases hq : q = 0
  · subst hq
    rw [if_pos rfl] at hr hb
    subst hr hb
    exact ⟨_, .same, rfl, rfl, hcell⟩
  rw [if_neg hq] at hr hb
  rcases cell with _ | last
  · subst hr hb
    exact ⟨_, rT, rfl, rfl, hT⟩
  dsimp only at hr hb
  by_cases hc : last + cost ≤ now ∨ last + cost - now < c.rule.maxQueueMs
  · rw [if_pos hc] at hr hb
    -- queued or admitted at once: either way the new schedule is stored over `arg`'s cell; only the stored time differs
    by_cases hg : last + cost > now
    · rw [if_pos hg] at hr hb
      subst hr hb
      exact ⟨_, rT.store _, rfl, rfl, Lru.peek_store_self _ hT⟩
    · rw [if_neg hg] at hr hb
      subst hr hb
      exact ⟨_, rT.store _, rfl, rfl, Lru.peek_store_self _ hT⟩
  · rw [if_neg hc] at hr hb
    subst hr hb
    exact ⟨_, rT, rfl, rfl, hT⟩

theorem checkThrottle_rule (c : HsCtrl) (now : Nat) (arg : String) (batch : Nat) (h : c.time.Room arg) :
    (c.checkThrottle now arg batch).1.rule = c.rule := by
  obtain ⟨T, _, e, _⟩ := checkThrottle_spec c now arg batch h
  rw [e]

/-- **The controller is the per-value schedule**: for a value with room in the time counter, `checkThrottle` returns what
`hsThrottleStep` returns on that value's cell and writes that cell only -/
theorem checkThrottle_cell (c : HsCtrl) (now : Nat) (arg other : String) (batch : Nat) (h : c.time.Room arg) :
    (c.checkThrottle now arg batch).2 =
        (hsThrottleStep (c.rule.thrFor arg) c.rule.durSec c.rule.maxQueueMs (c.time.peek arg) now batch).2 ∧
    ((c.checkThrottle now arg batch).1.time.peek arg =
        (hsThrottleStep (c.rule.thrFor arg) c.rule.durSec c.rule.maxQueueMs (c.time.peek arg) now batch).1) ∧
    (other ≠ arg → (c.checkThrottle now arg batch).1.time.peek other = c.time.peek other) := by
  obtain ⟨T, rT, e, hv, hp⟩ := checkThrottle_spec c now arg batch h
  rw [e]
  exact ⟨hv, hp, rT.frame h⟩

/-- the time counter's invariant with respect to a universe `U` of parameter values that fits it -/
structure TimeInv (c : HsCtrl) (U : List String) : Prop where
  capT : c.time.cap ≠ 0
  fitT : U.length ≤ c.time.cap
  subT : ∀ x ∈ c.time.keys, x ∈ U
  ndT : c.time.keys.Nodup

theorem TimeInv.fits {c : HsCtrl} {U : List String} (h : TimeInv c U) : c.time.Fits U := ⟨h.capT, h.fitT, h.subT, h.ndT⟩

theorem checkThrottle_inv (c : HsCtrl) (U : List String) (now : Nat) (arg : String) (batch : Nat) (h : TimeInv c U) (ha : arg ∈ U) :
    TimeInv (c.checkThrottle now arg batch).1 U := by
  obtain ⟨T, rT, e, _⟩ := checkThrottle_spec c now arg batch (h.fits.room ha)
  have f := h.fits.reach ha rT
  rw [e]
  exact ⟨f.cap, f.fit, f.sub, f.nd⟩

/-- run a sequence of throttling checks `(time, value, batch)` (oldest first), collecting the verdicts -/
def HsCtrl.runThrottle (c : HsCtrl) : List (Nat × String × Nat) → HsCtrl × List HsRes
  | [] => (c, [])
  | (t, v, n) :: rest =>
    let (c1, r) := c.checkThrottle t v n
    let (c2, rs) := c1.runThrottle rest
    (c2, r :: rs)

/-- the same sequence seen by independent per-value schedules -/
def schedulesRun (rule : HsRule) (cells : String → Option Nat) : List (Nat × String × Nat) → (String → Option Nat) × List HsRes
  | [] => (cells, [])
  | (t, v, n) :: rest =>
    let (s', r) := hsThrottleStep (rule.thrFor v) rule.durSec rule.maxQueueMs (cells v) t n
    let (cells2, rs) := schedulesRun rule (fun x => if x = v then s' else cells x) rest
    (cells2, r :: rs)

/-- **No cross-talk, every history (hotspot throttling)**: over a set of distinct values no larger than the rule's capacity,
the controller's verdicts - pass, wait with its amount, or block - are exactly those of independent per-value pacing schedules
(`hs_throttle_wait/_pass/_blocked/_first` say what each of those does); nothing is evicted. -/
theorem throttle_run_refines_schedules (c : HsCtrl) (U : List String) (reqs : List (Nat × String × Nat)) (h : TimeInv c U)
    (hU : ∀ r ∈ reqs, r.2.1 ∈ U) :
    (c.runThrottle reqs).2 = (schedulesRun c.rule c.time.peek reqs).2 ∧
    TimeInv (c.runThrottle reqs).1 U ∧
    (∀ v, (c.runThrottle reqs).1.time.peek v = (schedulesRun c.rule c.time.peek reqs).1 v) := by
  induction reqs generalizing c with
  | nil => exact ⟨rfl, h, fun _ => rfl⟩
  | cons r rest ih =>
    obtain ⟨t, v, n⟩ := r
    have hv : v ∈ U := hU _ List.mem_cons_self
    have hU' : ∀ r ∈ rest, r.2.1 ∈ U := fun r hr => hU r (List.mem_cons_of_mem _ hr)
    have hroom := h.fits.room hv
    -- one step: the verdict, the value's own cell, the other cells, the invariant, the rule
    obtain ⟨hout, hown, _⟩ := checkThrottle_cell c t v v n hroom
    have hframe := fun x hx => (checkThrottle_cell c t v x n hroom).2.2 hx
    have hinv := checkThrottle_inv c U t v n h hv
    have hrule := checkThrottle_rule c t v n hroom
    have hcells := eq_update hown hframe
    obtain ⟨i1, i2, i3⟩ := ih (c.checkThrottle t v n).1 hinv hU'
    rw [hrule, hcells] at i1 i3
    simp only [HsCtrl.runThrottle, schedulesRun]
    refine ⟨?_, i2, i3⟩
    rw [i1, hout]

/-- the hotspot slot's dispatch is `checkThrottle` for a QPS rule with the throttling strategy -/
theorem check_is_checkThrottle (c : HsCtrl) (now : Nat) (arg : String) (batch : Nat) (hm : c.rule.metric = .qps) (hs : c.rule.strategy = .throttling) :
    c.check now arg batch = c.checkThrottle now arg batch := by
  unfold HsCtrl.check; rw [hm, hs]

example : (throttleRun "t" (F64.ofNat 2) 1000000000 500000000 [(10, 1), (5, 1), (0, 1)]).2.length = 1 := by decide

end Sentinel
