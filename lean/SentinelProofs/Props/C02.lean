import Sentinel.LeapArray
import SentinelProofs.Lemmas.Ring
import SentinelProofs.Lemmas.RingRead
import SentinelProofs.Lemmas.Checks
import SentinelProofs.Lemmas.List
import SentinelProofs.Lemmas.Bucket
/-!
# C02 — sliding-window statistics report exactly the events inside the window

Theorems about `Sentinel/LeapArray.lean`, for every geometry and every history with non-decreasing time stamps.
Guards: `0 < start t` for every event (stamp 0 is the code's "never used" marker) and
`W ≤ start now` (`end - interval + bucket_len` must not wrap in `u64`; in `Nat` the subtraction truncates on both sides of
the equations and the proofs do not use this guard: it is what makes the statements speak of the code).
-/
set_option autoImplicit false
namespace Sentinel

/-! ## construction and reuse checks -/

/-- what `LeapArray::new` accepts -/
theorem leap_new_ok_iff (n iv : Nat) : leapNewOk n iv = true ↔ n ≠ 0 ∧ iv % n = 0 := by
  simp [leapNewOk]

theorem statOk_iff (sc iv : Nat) : statOk sc iv = true ↔ iv ≠ 0 ∧ sc ≠ 0 ∧ iv % sc = 0 := by
  simp [statOk, and_assoc]

/-- what `check_validity_for_reuse_statistic` accepts -/
theorem checkReuse_iff (sc iv psc piv : Nat) :
    checkReuse sc iv psc piv = 0 ↔
      (iv ≠ 0 ∧ sc ≠ 0 ∧ iv % sc = 0) ∧ (piv ≠ 0 ∧ psc ≠ 0 ∧ piv % psc = 0) ∧
      piv % iv = 0 ∧ (iv / sc) % (piv / psc) = 0 := by
  simp only [checkReuse, ite_succ_eq_zero, Bool.not_eq_true', Bool.not_eq_false, statOk_iff, Decidable.not_not, and_true]

/-- an accepted read window is a whole number of inner buckets, at least one and at most all: what the read theorems need -/
theorem checkReuse_tiles (sc iv psc piv : Nat) (h : checkReuse sc iv psc piv = 0) :
    iv % (piv / psc) = 0 ∧ piv / psc ≤ iv ∧ iv ≤ piv := by
  obtain ⟨⟨h1, h2, h3⟩, ⟨h4, h5, h6⟩, h7, h8⟩ := (checkReuse_iff sc iv psc piv).mp h
  have hsc : 0 < sc := Nat.pos_of_ne_zero h2
  have hiv : 0 < iv := Nat.pos_of_ne_zero h1
  have hpiv : 0 < piv := Nat.pos_of_ne_zero h4
  have e1 : iv = sc * (iv / sc) := (Nat.mul_div_cancel' (Nat.dvd_of_mod_eq_zero h3)).symm
  have d1 : (piv / psc) ∣ (iv / sc) := Nat.dvd_of_mod_eq_zero h8
  have d2 : (piv / psc) ∣ iv := by
    rw [e1]
    exact Nat.dvd_mul_left_of_dvd d1 sc
  have hle : iv ≤ piv := Nat.le_of_dvd hpiv (Nat.dvd_of_mod_eq_zero h7)
  refine ⟨Nat.mod_eq_zero_of_dvd d2, Nat.le_of_dvd hiv d2, hle⟩

/-! ## whole histories keep the invariant -/

/-- recording a whole history (newest first: `e :: older` records `e` last) into a fresh ring -/
def runHistory (g : Geo) : List TEv → Option BRing
  | [] => some (ringInit MetricBucket.zero g)
  | e :: older => (runHistory g older).bind (fun r => r.record g e.1 e.2)

/-- a history is admissible when time stamps do not decrease (newest first) and are past the first bucket -/
def Admissible (g : Geo) : List TEv → Prop
  | [] => True
  | e :: older => 0 < g.start e.1 ∧ (∀ o ∈ older, o.1 ≤ e.1) ∧ Admissible g older

/-- stated for every bound `tl` on the times, not for the last time: the empty history has none, and readers at a later `now`
take `tl := now` without a `mono` step -/
theorem run_inv_at (g : Geo) (hn : 0 < g.n) (hL : 0 < g.L) (evs : List TEv) (h : Admissible g evs) :
    ∃ r, runHistory g evs = some r ∧ ∀ tl, (∀ e ∈ evs, e.1 ≤ tl) → BInv g r evs tl := by
  induction evs with
  | nil => exact ⟨_, rfl, fun tl _ => binv_init g tl⟩
  | cons e older ih =>
    obtain ⟨hpos, hmono, hadm⟩ := h
    obtain ⟨r, hrun, hinv⟩ := ih hadm
    obtain ⟨r', hw, hinv'⟩ := ring_inv_record g hn hL r older e.1 e.1 e.2 (hinv e.1 hmono) (Nat.le_refl _) hpos
    refine ⟨r', ?_, fun tl htl => hinv'.mono (htl e List.mem_cons_self)⟩
    simp only [runHistory, hrun, Option.bind_some]
    exact hw

/-- every admissible history can be recorded (`get_bucket_of_time` never fails) and leaves the ring in the invariant; the last
conjunct says that `tl` is the time of an event, so a reader "not before the history" is not before `tl` -/
theorem run_inv (g : Geo) (hn : 0 < g.n) (hL : 0 < g.L) (evs : List TEv) (h : Admissible g evs) :
    ∃ r tl, runHistory g evs = some r ∧ BInv g r evs tl ∧ (∀ e ∈ evs, e.1 ≤ tl) ∧
      (evs = [] ∨ ∃ e ∈ evs, tl = e.1) := by
  obtain ⟨r, hrun, hinv⟩ := run_inv_at g hn hL evs h
  cases evs with
  | nil => exact ⟨r, 0, hrun, hinv 0 (by simp), by simp, Or.inl rfl⟩
  | cons e older =>
    have hle : ∀ x ∈ e :: older, x.1 ≤ e.1 := List.forall_mem_cons.mpr ⟨Nat.le_refl _, h.2.1⟩
    exact ⟨r, e.1, hrun, hinv e.1 hle, hle, Or.inr ⟨e, List.mem_cons_self, rfl⟩⟩

/-! ## window reads: sum, minimum response time, rates -/

/-- `sum_with_time` at any read time whose window is still resident (`hres`): `sliding_sum_eq` (reads not before the last write) and
`qps_previous_eq` (a read one reader bucket earlier) are its two uses -/
theorem sliding_sum_eq_of_resident (g : Geo) (hn : 0 < g.n) (hL : 0 < g.L) (r : BRing) (evs : List TEv) (tl : Nat)
    (rd : Reader) (now : Nat) (k : Kind) (hinv : BInv g r evs tl)
    (hWn : rd.iv ≤ g.interval) (hres : g.start tl < (g.start now - rd.iv + g.L) + g.interval) :
    r.sumWithTime g rd now k = windowSum g.L evs (g.start now - rd.iv + g.L) (g.start now) k :=
  ring_window_read (· + ·) 0 rfl Ev.apply MetricBucket.zero g hn hL r evs tl hinv (fun b => b.get k) (fun e => e.2.amount k)
    (get_bucketVal g evs · k) rd.iv now hWn hres

/-- `SlidingWindowMetric::sum_with_time`, reads at or after the last write: no event older than the window is reported and none
inside is missed -/
theorem sliding_sum_eq (g : Geo) (hn : 0 < g.n) (hL : 0 < g.L) (r : BRing) (evs : List TEv) (tl : Nat)
    (rd : Reader) (now : Nat) (k : Kind) (hinv : BInv g r evs tl) (hnow : tl ≤ now)
    (hWL : g.L ≤ rd.iv) (hWn : rd.iv ≤ g.interval) (hguard : rd.iv ≤ g.start now) :
    r.sumWithTime g rd now k = windowSum g.L evs (g.start now - rd.iv + g.L) (g.start now) k :=
  sliding_sum_eq_of_resident g hn hL r evs tl rd now k hinv hWn (resident_of_le g hL hnow hWn)

/-- `SlidingWindowMetric::min_rt`: the least response time recorded in the window, `DEFAULT_STATISTIC_MAX_RT` if none -/
theorem sliding_min_rt_eq (g : Geo) (hn : 0 < g.n) (hL : 0 < g.L) (r : BRing) (evs : List TEv) (tl : Nat)
    (rd : Reader) (now : Nat) (hinv : BInv g r evs tl) (hnow : tl ≤ now)
    (hWL : g.L ≤ rd.iv) (hWn : rd.iv ≤ g.interval) (hguard : rd.iv ≤ g.start now) :
    r.minRt g rd now = windowMinRt g.L evs (g.start now - rd.iv + g.L) (g.start now) :=
  ring_window_read min 60000 rfl Ev.apply MetricBucket.zero g hn hL r evs tl hinv (fun b => b.minRt) (fun e => e.2.rtVal)
    (minRt_bucketVal g evs) rd.iv now hWn (resident_of_le g hL hnow hWn)

/-- `qps_with_time` is the float expression of the exact window sum -/
theorem qps_eq (g : Geo) (hn : 0 < g.n) (hL : 0 < g.L) (r : BRing) (evs : List TEv) (tl : Nat)
    (rd : Reader) (now : Nat) (k : Kind) (hinv : BInv g r evs tl) (hnow : tl ≤ now)
    (hWL : g.L ≤ rd.iv) (hWn : rd.iv ≤ g.interval) (hguard : rd.iv ≤ g.start now) :
    r.qpsWithTime g rd now k
      = F64.div (F64.ofNat (windowSum g.L evs (g.start now - rd.iv + g.L) (g.start now) k)) rd.intervalS := by
  unfold BRing.qpsWithTime
  rw [sliding_sum_eq g hn hL r evs tl rd now k hinv hnow hWL hWn hguard]

/-- `qps_previous` reads one reader bucket earlier, possibly before the last write: exact while that window is resident -/
theorem qps_previous_eq (g : Geo) (hn : 0 < g.n) (hL : 0 < g.L) (r : BRing) (evs : List TEv) (tl : Nat)
    (rd : Reader) (now : Nat) (k : Kind) (hinv : BInv g r evs tl)
    (hWL : g.L ≤ rd.iv) (hWn : rd.iv ≤ g.interval) (hguard : rd.iv ≤ g.start (now - rd.bucketLen))
    (hres : g.start tl < (g.start (now - rd.bucketLen) - rd.iv + g.L) + g.interval) :
    r.qpsPrevious g rd now k
      = F64.div (F64.ofNat (windowSum g.L evs (g.start (now - rd.bucketLen) - rd.iv + g.L) (g.start (now - rd.bucketLen)) k)) rd.intervalS := by
  unfold BRing.qpsPrevious BRing.qpsWithTime
  rw [sliding_sum_eq_of_resident g hn hL r evs tl rd _ k hinv hWn hres]

/-- `avg_rt` is the float expression of the exact window sums -/
theorem avg_rt_eq (g : Geo) (hn : 0 < g.n) (hL : 0 < g.L) (r : BRing) (evs : List TEv) (tl : Nat)
    (rd : Reader) (now : Nat) (hinv : BInv g r evs tl) (hnow : tl ≤ now)
    (hWL : g.L ≤ rd.iv) (hWn : rd.iv ≤ g.interval) (hguard : rd.iv ≤ g.start now) :
    r.avgRt g rd now =
      (let c := windowSum g.L evs (g.start now - rd.iv + g.L) (g.start now) .complete
       if c = 0 then F64.zero
       else F64.div (F64.ofNat (windowSum g.L evs (g.start now - rd.iv + g.L) (g.start now) .rt)) (F64.ofNat c)) := by
  unfold BRing.avgRt
  rw [sliding_sum_eq g hn hL r evs tl rd now .complete hinv hnow hWL hWn hguard,
      sliding_sum_eq g hn hL r evs tl rd now .rt hinv hnow hWL hWn hguard]

/-- **End to end**: a history recorded into a fresh ring that `LeapArray::new` accepts, read through a reader that the reuse check accepts -/
theorem history_sum_eq (sc iv n piv : Nat) (evs : List TEv) (now : Nat) (k : Kind)
    (hnew : leapNewOk n piv = true) (hLpos : 0 < piv / n) (hreuse : checkReuse sc iv n piv = 0)
    (hadm : Admissible ⟨n, piv / n⟩ evs) (hnow : ∀ e ∈ evs, e.1 ≤ now) (hguard : iv ≤ Geo.start ⟨n, piv / n⟩ now) :
    ∃ r, runHistory ⟨n, piv / n⟩ evs = some r ∧
      BRing.sumWithTime ⟨n, piv / n⟩ r ⟨sc, iv⟩ now k
        = windowSum (piv / n) evs (Geo.start ⟨n, piv / n⟩ now - iv + piv / n) (Geo.start ⟨n, piv / n⟩ now) k := by
  obtain ⟨hn, hdiv⟩ := (leap_new_ok_iff n piv).mp hnew
  obtain ⟨r, hrun, hinv⟩ := run_inv_at ⟨n, piv / n⟩ (Nat.pos_of_ne_zero hn) hLpos evs hadm
  obtain ⟨_, t2, t3⟩ := checkReuse_tiles sc iv n piv hreuse
  have hWn : iv ≤ Geo.interval ⟨n, piv / n⟩ := by
    show iv ≤ n * (piv / n)
    rw [Nat.mul_div_cancel' (Nat.dvd_of_mod_eq_zero hdiv)]
    exact t3
  exact ⟨r, hrun, sliding_sum_eq _ (Nat.pos_of_ne_zero hn) hLpos r evs now ⟨sc, iv⟩ now k (hinv now hnow) (Nat.le_refl _) t2
    hWn hguard⟩

/-! ## maxima and the raw `is_deprecated` filter -/

/-- `SlidingWindowMetric::max_of_single_bucket`: the largest per-bucket total among the window's buckets -/
theorem max_of_single_bucket_eq (g : Geo) (hn : 0 < g.n) (hL : 0 < g.L) (r : BRing) (evs : List TEv) (tl : Nat)
    (rd : Reader) (now : Nat) (k : Kind) (hinv : BInv g r evs tl) (hnow : tl ≤ now)
    (hWL : g.L ≤ rd.iv) (hWn : rd.iv ≤ g.interval) (hguard : rd.iv ≤ g.start now) :
    r.maxOfSingleBucket g rd now k = windowMaxBucket g.L evs (g.start now - rd.iv + g.L) (g.start now) k :=
  ring_window_read max 0 rfl Ev.apply MetricBucket.zero g hn hL r evs tl hinv (fun b => b.get k)
    (fun e => windowSum g.L evs (g.start e.1) (g.start e.1) k) (maxBucket_bucketVal g evs · k)
    rd.iv now hWn (resident_of_le g hL hnow hWn)

/-- `SlidingWindowMetric::max_concurrency`: the largest concurrency sample recorded in the window -/
theorem max_concurrency_eq (g : Geo) (hn : 0 < g.n) (hL : 0 < g.L) (r : BRing) (evs : List TEv) (tl : Nat)
    (rd : Reader) (now : Nat) (hinv : BInv g r evs tl) (hnow : tl ≤ now)
    (hWL : g.L ≤ rd.iv) (hWn : rd.iv ≤ g.interval) (hguard : rd.iv ≤ g.start now) :
    r.maxConcurrency g rd now = windowMaxConc g.L evs (g.start now - rd.iv + g.L) (g.start now) :=
  ring_window_read max 0 rfl Ev.apply MetricBucket.zero g hn hL r evs tl hinv (fun b => b.maxConc) (fun e => e.2.concVal)
    (maxConc_bucketVal g evs) rd.iv now hWn (resident_of_le g hL hnow hWn)

/-- **`count_with_time`, exactly** (raw `is_deprecated` filter): the events not older than one interval whose bucket has not
been overwritten -/
theorem count_with_time_resident (g : Geo) (hn : 0 < g.n) (hL : 0 < g.L) (r : BRing) (evs : List TEv) (tl now : Nat) (k : Kind)
    (hinv : BInv g r evs tl) (hnow : tl ≤ now) :
    r.countWithTime g now k = windowSumIf g.L evs
      (fun b => decide ((slotAt MetricBucket.zero r (g.idx b)).stamp = b) && decide (now - g.interval ≤ b)) k := by
  refine ring_read (· + ·) 0 rfl Ev.apply MetricBucket.zero g hn hL r evs tl hinv (fun b => b.get k) (fun e => e.2.amount k)
    (get_bucketVal g evs · k) (validAt g now)
    (fun b => decide ((slotAt MetricBucket.zero r (g.idx b)).stamp = b) && decide (now - g.interval ≤ b)) ?_ ?_
  · intro i hi hc hne
    rw [validAt_eq, decide_eq_true_eq] at hc
    rw [(hinv.slot i hi hne).2.1, Bool.and_eq_true, decide_eq_true_eq, decide_eq_true_eq]
    exact ⟨rfl, by omega⟩
  · intro e _ hp
    rw [g.idx_start hL, Bool.and_eq_true, decide_eq_true_eq, decide_eq_true_eq] at hp
    rw [validAt_eq, decide_eq_true_eq]
    exact ⟨hp.1, by omega⟩

/-- nothing older than one interval is ever reported -/
theorem count_with_time_upper (g : Geo) (hn : 0 < g.n) (hL : 0 < g.L) (r : BRing) (evs : List TEv) (tl now : Nat) (k : Kind)
    (hinv : BInv g r evs tl) (hnow : tl ≤ now) :
    r.countWithTime g now k ≤ windowSum g.L evs (now - g.interval) (g.start now) k := by
  rw [count_with_time_resident g hn hL r evs tl now k hinv hnow]
  apply sum_filter_mono
  intro e he hp
  rw [Bool.and_eq_true, decide_eq_true_eq, decide_eq_true_eq] at hp ⊢
  exact ⟨hp.2, g.start_mono (Nat.le_trans (hinv.times e he) hnow)⟩

/-- every event of the `n` newest buckets is always reported: its bucket is less than an interval behind the newest one, hence
still resident, and young enough for the `is_deprecated` test at `now` -/
theorem count_with_time_lower (g : Geo) (hn : 0 < g.n) (hL : 0 < g.L) (r : BRing) (evs : List TEv) (tl now : Nat) (k : Kind)
    (hinv : BInv g r evs tl) (hnow : tl ≤ now) :
    windowSum g.L evs (g.start now - g.interval + g.L) (g.start now) k ≤ r.countWithTime g now k := by
  rw [count_with_time_resident g hn hL r evs tl now k hinv hnow]
  apply sum_filter_mono
  intro e he hp
  rw [Bool.and_eq_true, decide_eq_true_eq, decide_eq_true_eq] at hp ⊢
  have hlo : g.start now - g.interval + g.L ≤ g.start e.1 := hp.1
  have := g.start_mono hnow
  have := g.lt_start_add hL now
  refine ⟨?_, by omega⟩
  show (slotAt MetricBucket.zero r (g.idx (g.start e.1))).stamp = g.start e.1
  rw [g.idx_start hL]
  exact event_bucket_resident _ _ g hn hL r evs tl hinv e he (by omega)

/-- off the one boundary the ring cannot represent: a read exactly on a bucket start at which something has just been written.
Then the buckets from `now - interval` on are all resident (`hoff`), and the read is an interval read like the others -/
theorem count_with_time_eq (g : Geo) (hn : 0 < g.n) (hL : 0 < g.L) (r : BRing) (evs : List TEv) (tl now : Nat) (k : Kind)
    (hinv : BInv g r evs tl) (hnow : tl ≤ now) (hoff : now % g.L ≠ 0 ∨ g.start tl < now) :
    r.countWithTime g now k = windowSum g.L evs (now - g.interval) (g.start now) k := by
  have hmono := g.start_mono hnow
  refine ring_interval_read (· + ·) 0 rfl Ev.apply MetricBucket.zero g hn hL r evs tl hinv (fun b => b.get k)
    (fun e => e.2.amount k) (get_bucketVal g evs · k) (validAt g now) _ _ (fun i hi => ?_) ?_
  · -- on the ring's stamps the raw filter says `now - interval ≤ stamp`, and no stamp is after `start now`
    rw [validAt_eq, Bool.eq_iff_iff, Bool.and_eq_true, decide_eq_true_eq, decide_eq_true_eq, decide_eq_true_eq]
    by_cases h0 : (slotAt MetricBucket.zero r i).stamp = 0
    · omega
    · have := (hinv.slot i hi h0).2.2
      omega
  · rcases hoff with h | h
    · -- `now` is strictly inside its bucket
      have : g.start now < now := by
        show now - now % g.L < now
        have := Nat.pos_of_ne_zero h
        have := Nat.mod_le now g.L
        omega
      omega
    · omega

/-! ## non-vacuity -/

/-- a concrete 4×500 ms ring: two events in different buckets, then one that rolls slot 0 over -/
def exHistory : List TEv :=
  [(1700000002100, .add .pass 7), (1700000000600, .add .rt 30), (1700000000100, .add .pass 3)]

example : Admissible ⟨4, 500⟩ exHistory := by
  refine ⟨by decide, by decide, by decide, by decide, by decide, by decide, trivial⟩
example : leapNewOk 4 2000 = true ∧ checkReuse 2 1000 4 2000 = 0 := by decide
example : (runHistory ⟨4, 500⟩ exHistory).isSome = true := by decide
example : windowSum 500 exHistory (1700000002000 - 1000 + 500) 1700000002000 .pass = 7 := by decide

/-- a history with concurrency samples and two pass events in one bucket -/
def exHistory2 : List TEv :=
  [(1700000002100, .conc 4), (1700000001700, .add .pass 5), (1700000001600, .add .pass 2), (1700000001200, .conc 9),
   (1700000000100, .add .pass 30)]
example : Admissible ⟨4, 500⟩ exHistory2 := by
  refine ⟨by decide, by decide, by decide, by decide, by decide, by decide, by decide, by decide, by decide, by decide, trivial⟩
-- the 2 s window ending in bucket 1700000002000 excludes the bucket of the 30 (it shares the slot of the newest bucket)
example : windowMaxBucket 500 exHistory2 (1700000002000 - 2000 + 500) 1700000002000 .pass = 7 := by decide
example : windowMaxConc 500 exHistory2 (1700000002000 - 2000 + 500) 1700000002000 = 9 := by decide
example : windowMaxConc 500 exHistory2 (1700000002000 - 1000 + 500) 1700000002000 = 4 := by decide
example : (runHistory ⟨4, 500⟩ exHistory2).map (fun r => (r.maxOfSingleBucket ⟨4, 500⟩ ⟨4, 2000⟩ 1700000002100 .pass,
    r.maxConcurrency ⟨4, 500⟩ ⟨4, 2000⟩ 1700000002100, r.countWithTime ⟨4, 500⟩ 1700000002100 .pass)) = some (7, 9, 7) := by decide
-- the excluded boundary of `count_with_time_eq` is real: read exactly on a bucket start at which something was just written
example : (runHistory ⟨2, 500⟩ [(1700000001000, .add .pass 1), (1700000000000, .add .pass 8)]).map
    (fun r => r.countWithTime ⟨2, 500⟩ 1700000001000 .pass) = some 1 ∧
    windowSum 500 [(1700000001000, .add .pass 1), (1700000000000, .add .pass 8)] (1700000001000 - 1000) 1700000001000 .pass = 9 := by decide

end Sentinel
