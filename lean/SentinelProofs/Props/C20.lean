import Sentinel.Tower
import SentinelProofs.Props.C04
/-!
# C20 — Tower middleware calls the service iff admitted and always releases admission

`Mw.call` is `World.build` followed by the inner service; every theorem reads the admission off `build`'s verdict and the
release off the node's in-flight count (`build_accounts_once`, `exit_records_completion` of C04).
-/
set_option autoImplicit false
namespace Sentinel

/-- **the inner service is called exactly once for an admitted request and never for a rejected one** -/
theorem inner_called_once_iff_admitted (m : Mw) (id : Nat) (res : String) (o : Outcome) :
    ((m.w.build id res 1 m.inbound).2 = .pass → (m.call id res o).1.innerCalls = m.innerCalls + 1) ∧
    ((m.w.build id res 1 m.inbound).2 ≠ .pass → (m.call id res o).1.innerCalls = m.innerCalls) := by
  unfold Mw.call
  cases hb : m.w.build id res 1 m.inbound with
  | mk w' r =>
    cases r with
    | pass =>
      refine ⟨fun _ => ?_, fun h => absurd rfl h⟩
      dsimp only
      split <;> simp [Mw.complete]
    | blocked ty rule snap =>
      exact ⟨fun h => (by cases h), fun _ => rfl⟩

/-- **a rejected request gets the fallback response, or an error when there is no fallback** -/
theorem rejected_gets_fallback_or_error (m : Mw) (id : Nat) (res : String) (o : Outcome) (ty rule snap : String)
    (h : (m.w.build id res 1 m.inbound).2 = .blocked ty rule snap) :
    (m.call id res o).2 = some (if m.hasFallback then .fallback else .blockedErr) ∧ (m.call id res o).1.pending = m.pending := by
  unfold Mw.call
  cases hb : m.w.build id res 1 m.inbound with
  | mk w' r =>
    rw [hb] at h
    dsimp only at h
    subst h
    exact ⟨rfl, rfl⟩

/-- an admitted request is answered by the inner service's outcome: at once when it is ready, otherwise after `finish` -/
theorem admitted_reply (m : Mw) (id : Nat) (res : String) (o : Outcome) (h : (m.w.build id res 1 m.inbound).2 = .pass) :
    (m.call id res o).2 = (if o.isReady then some (if o.isErr then .innerErr else .ok) else none) := by
  unfold Mw.call
  cases hb : m.w.build id res 1 m.inbound with
  | mk w' r =>
    rw [hb] at h
    dsimp only at h
    subst h
    dsimp only
    split <;> simp [Mw.complete]

/-! ## release on every outcome -/

/-- what both release theorems need of `build` and of the matching `exit`, in the shape in which `Mw.call` branches on the
verdict: an admitted build holds one admission on the resource's node and the exit of that entry gives it back; a rejected one
holds none -/
theorem build_exit_conc (w : World) (id : Nat) (res : String) (inbound : Bool) :
    let w' := (w.build id res 1 inbound).1
    if (w.build id res 1 inbound).2 = .pass then
      (w'.node res).conc = (w.node res).conc + 1 ∧ (((w'.exit id).getD w').node res).conc = (w.node res).conc
    else (w'.node res).conc = (w.node res).conc := by
  intro w'
  rcases build_accounts_once w id res 1 inbound none none with ⟨hp, hn, _⟩ | ⟨⟨ty, rule, snap, hb⟩, hn, _⟩
  · obtain ⟨e, he, heres, _⟩ := build_pass_entry w id res 1 inbound none none hp
    -- from here on the resource is `e.res`, which is how `exit_records_completion` names it
    subst heres
    have hn' : (w'.node e.res).conc = (w.node e.res).conc + 1 := by rw [hn, Node.recordPass_conc]
    obtain ⟨w2, hx, hnode, _⟩ := exit_records_completion w' id e he
    rw [if_pos hp, hx, Option.getD_some, hnode, Node.recordComplete_conc, hn']
    exact ⟨rfl, Nat.add_sub_cancel ..⟩
  · have hnp : ¬ (w.build id res 1 inbound).2 = .pass := by
      rw [hb]
      exact fun h => nomatch h
    rw [if_neg hnp, hn, Node.recordBlock_conc]

/-- **Released whether the inner call finishes with a response or with an error** (ready outcomes) -/
theorem released_on_ready_outcome (m : Mw) (id : Nat) (res : String) (o : Outcome) (hr : o.isReady = true) :
    ((m.call id res o).1.w.node res).conc = (m.w.node res).conc := by
  have h := build_exit_conc m.w id res m.inbound
  unfold Mw.call
  cases hb : m.w.build id res 1 m.inbound with
  | mk w' r =>
    rw [hb] at h
    cases r with
    | pass => simp only [hr, if_true, Mw.complete]; exact h.2
    | blocked ty rule snap => exact h

/-- **Released for pending outcomes too**: while the request is in flight it holds exactly one admission, and `finish` gives it back -/
theorem released_on_pending_outcome (m : Mw) (id : Nat) (res : String) (o : Outcome) (hr : o.isReady = false)
    (hp : (m.w.build id res 1 m.inbound).2 = .pass)  :
    ((m.call id res o).1.w.node res).conc = (m.w.node res).conc + 1 ∧
    ((((m.call id res o).1).finish id).1.w.node res).conc = (m.w.node res).conc := by
  have h := build_exit_conc m.w id res m.inbound
  rw [if_pos hp] at h
  unfold Mw.call
  cases hb : m.w.build id res 1 m.inbound with
  | mk w' r =>
    rw [hb] at hp h
    dsimp only at hp
    subst hp
    simp only [hr, Bool.false_eq_true, if_false, Mw.finish, List.find?_cons, beq_self_eq_true, Mw.complete]
    exact h

/-- a dropped future is different: nothing releases its admission (reported by the check, not asserted by the property) -/
theorem dropped_future_keeps_admission (m : Mw) (id : Nat) : (m.dropFuture id).w = m.w := rfl

example : (Mw.call {} 1 "a" .readyErr).2 = some .innerErr := by decide

end Sentinel
