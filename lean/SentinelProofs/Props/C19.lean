import SentinelProofs.Lemmas.MetricLog
/-!
# C19 — metric log: written items can be searched back; a torn tail loses one line

Model: `Sentinel/MetricLog.lean` (writer actions on an explicit directory, index search, readers, searcher with its cache).
The theorems speak of the directory through `Rep fs al` (it holds exactly the abstract files `al`, each a list of groups: one
index entry and the items whose lines follow it) and `WF al` (what the writer guarantees about them), both in
`Lemmas/MetricLog/Index.lean`. The writer's side is in `Lemmas/MetricLog/Writer.lean`: the histories (`runWrites`, `accepted`,
`stamp`, `histBytes`, `histItems`), the invariant `WInv` with `RepL` and `AOk`, and `dropCount`. `CacheInv` is in `CacheInv.lean`,
`CrashOK` in `Crash.lean`.
-/
set_option autoImplicit false
namespace Sentinel.MLog
open Sentinel

/-- both range-search results below are this: the Spec's answer, then at most one more item (the torn line of the last file misread),
none when every file is live -/
theorem search_range_spec (fs : FS) (al : List AFile) (hrep : Rep fs al) (hwf : WF al)
    (htorn : ∀ f ∈ al.dropLast, f.tail = []) (b e : Nat) (res : List Char) :
    ∃ extra, extra.length ≤ 1 ∧ ((∀ f ∈ al, f.tail = []) → extra = []) ∧
      (searchRange fs {} b e res).2 = some (specRange ((al.flatMap AFile.items).map stored) b e res ++ extra) := by
  unfold searchRange
  rw [startFiles_fresh, hrep.listing]
  obtain ⟨frm, hsuf, hfrom, hsorted, hstart⟩ := start_decomp fs al hrep hwf b
  rw [specRange_of _ _ b hfrom hsorted]
  rcases hstart with ⟨hnone, rfl⟩ | ⟨A, f, B, pre, g, post, hal, hgs, hfs, rfl⟩
  · rw [hnone]
    exact ⟨[], by simp, fun _ => rfl, rfl⟩
  · rw [hfs]
    have hT := TornLast.of_rep hrep hwf htorn hal (List.cons_ne_nil f B)
    have hcap := Nat.lt_of_le_of_lt hsuf.length_le hwf.cap
    rw [List.length_append] at hcap
    have hroom : ([] : List MItem).length + (groupsItems (g :: post)).length + (B.flatMap AFile.items).length < MAX_ITEM_AMOUNT := by
      rw [List.length_nil]
      omega
    obtain ⟨extra, he, hl, hr⟩ := range_cons fs (b / 1000) (e / 1000) res B f pre (g :: post) hgs hT [] hroom
    refine ⟨extra, he, fun h => hl (fun x hx => h x (hal ▸ List.mem_append_right _ hx)), ?_⟩
    simpa only [readRange, hT.logs f List.mem_cons_self, List.nil_append, List.length_nil] using hr

/-- **Search by time range and resource (`find_by_time_and_resource`) returns exactly the items the log holds for that window, in
write order**: any number of files, any roll-over points, one second may continue in the next file; a searcher without a cached
position. -/
theorem search_range_finds_all (fs : FS) (al : List AFile) (hrep : Rep fs al) (hwf : WF al)
    (hlive : ∀ f ∈ al, f.tail = [] ∧ f.idxTail = []) (b e : Nat) (res : List Char) :
    (searchRange fs {} b e res).2 = some (specRange ((al.flatMap AFile.items).map stored) b e res) := by
  obtain ⟨extra, _, hl, h⟩ := search_range_spec fs al hrep hwf (fun f hf => (hlive f (List.dropLast_subset _ hf)).1) b e res
  rw [h, hl (fun f hf => (hlive f hf).1), List.append_nil]

/-- the same for the line-limited search: an answer that meets `specLinesOk`, then at most one more item, none when every file is live -/
theorem search_lines_spec (fs : FS) (al : List AFile) (hrep : Rep fs al) (hwf : WF al)
    (htorn : ∀ f ∈ al.dropLast, f.tail = []) (b n : Nat) (hn : 1 ≤ n) :
    ∃ R extra, extra.length ≤ 1 ∧ ((∀ f ∈ al, f.tail = []) → extra = []) ∧ (searchLines fs {} b n).2 = some (R ++ extra) ∧
      specLinesOk ((al.flatMap AFile.items).map stored) b n R = true := by
  unfold searchLines
  rw [startFiles_fresh, hrep.listing]
  obtain ⟨frm, _, hfrom, hsorted, hstart⟩ := start_decomp fs al hrep hwf b
  rcases hstart with ⟨hnone, rfl⟩ | ⟨A, f, B, pre, g, post, hal, hgs, hfs, rfl⟩
  · rw [hnone]
    exact ⟨[], [], by simp, fun _ => rfl, rfl,
      specLinesOk_of _ [] [] b n hn hfrom hsorted (List.prefix_refl _) (Or.inr rfl) (Whole.nil n)⟩
  · rw [hfs]
    have hT := TornLast.of_rep hrep hwf htorn hal (List.cons_ne_nil f B)
    obtain ⟨Q, extra, he, hl, hr, hpre, hw, hlen⟩ := lines_cons fs n hn B f pre (g :: post) hgs hT [] (Whole.nil n)
    refine ⟨Q, extra, he, fun h => hl (fun x hx => h x (hal ▸ List.mem_append_right _ hx)), ?_, ?_⟩
    · simpa only [readLines, hT.logs f List.mem_cons_self, List.nil_append, List.length_nil, show latestSecond [] = 0 from rfl] using hr
    · -- `lines_cons` speaks of `[] ++ Q`
      exact specLinesOk_of _ _ _ b n hn hfrom hsorted hpre (hlen := by simpa using hlen) (hw := by simpa using hw)

/-- **the line-limited search returns the first lines from the begin time on: at least `n` of them when there are that many,
whole seconds, nothing from later seconds** (live directory, fresh searcher, `n ≥ 1`) -/
theorem search_lines_ok (fs : FS) (al : List AFile) (hrep : Rep fs al) (hwf : WF al)
    (hlive : ∀ f ∈ al, f.tail = [] ∧ f.idxTail = []) (b n : Nat) (hn : 1 ≤ n) :
    ∃ R, (searchLines fs {} b n).2 = some R ∧ specLinesOk ((al.flatMap AFile.items).map stored) b n R = true := by
  obtain ⟨R, extra, _, hl, h, hok⟩ := search_lines_spec fs al hrep hwf (fun f hf => (hlive f (List.dropLast_subset _ hf)).1) b n hn
  rw [hl (fun f hf => (hlive f hf).1), List.append_nil] at h
  exact ⟨R, h, hok⟩

/-- creating the writer establishes the invariant -/
theorem new_writer_well_formed (maxSize maxFiles nowMs : Nat) (w : Writer) (acts : List Act)
    (h : Writer.new {} maxSize maxFiles nowMs = some (w, acts)) :
    ∃ al, WInv w (({} : FS).applyAll acts) al 0 0 ∧ al.flatMap AFile.items = [] := by
  obtain ⟨hm, rfl, rfl⟩ := Writer.new_eq_some h
  exact ⟨_, roll_inv (fs := {}) (al := []) _ nowMs ⟨rfl, rfl⟩ List.Pairwise.nil (by simp) (AOk.nil _) hm rfl rfl,
    by rw [items_snoc_new, List.drop_nil]; rfl⟩

/-- a fresh writer, then the write history `hist`: the invariant with the ghost counters of the history, and what is held is a
suffix of what was accepted (retention removes whole oldest files). `hts`: seconds fit the `u64` of an index entry. -/
theorem run_from_new (maxSize maxFiles nowMs : Nat) (hist : List (Nat × List MItem)) (w0 : Writer) (acts : List Act)
    (hnew : Writer.new {} maxSize maxFiles nowMs = some (w0, acts))
    (hgood : ∀ p ∈ hist, ∀ it ∈ p.2, GoodItem { it with ts := p.1 })
    (hts : nowMs / 1000 < 18446744073709551616 ∧ ∀ p ∈ hist, p.1 / 1000 < 18446744073709551616) :
    ∃ al, WInv (runWrites w0 (({} : FS).applyAll acts) hist).1 (runWrites w0 (({} : FS).applyAll acts) hist).2.1 al
        (histBytes hist) (histItems hist) ∧
      al.flatMap AFile.items <:+ (runWrites w0 (({} : FS).applyAll acts) hist).2.2 ∧
      (runWrites w0 (({} : FS).applyAll acts) hist).1.latest < 18446744073709551616 := by
  obtain ⟨al0, hinv0, hitems0⟩ := new_writer_well_formed maxSize maxFiles nowMs w0 acts hnew
  obtain ⟨al, hinv, k, hk⟩ := run_inv hist w0 _ al0 0 0 hinv0 hgood
  rw [Nat.zero_add, Nat.zero_add] at hinv
  rw [hitems0, List.nil_append] at hk
  have hle : ∀ p ∈ hist, p.1 / 1000 ≤ 18446744073709551615 := fun p hp => Nat.le_of_lt_succ (hts.2 p hp)
  have hlatest := run_latest_le hist w0 (({} : FS).applyAll acts) 18446744073709551615
    ((Writer.new_eq_some hnew).2.1 ▸ Nat.le_of_lt_succ hts.1) hle
  exact ⟨al, hinv, hk ▸ List.drop_suffix _ _, Nat.lt_succ_of_le hlatest⟩

/-- **Every write history leaves a well-formed directory** (any timestamps incl. repeated, older and day-changing seconds, empty
batches, any size limit and file count), **and a time-range search on it returns exactly the accepted items that retention has not
removed, in write order.** Retention removes whole oldest files only, so what is held is a suffix of the accepted items (`drop k`). -/
theorem written_items_are_found (maxSize maxFiles nowMs : Nat) (hist : List (Nat × List MItem)) (w0 : Writer) (acts : List Act)
    (hnew : Writer.new {} maxSize maxFiles nowMs = some (w0, acts))
    (hgood : ∀ p ∈ hist, ∀ it ∈ p.2, GoodItem { it with ts := p.1 })
    (hts : nowMs / 1000 < 18446744073709551616 ∧ ∀ p ∈ hist, p.1 / 1000 < 18446744073709551616)
    (hbytes : histBytes hist < 18446744073709551616) (hitems : histItems hist < MAX_ITEM_AMOUNT) :
    ∃ k, ∀ b e res,
      (searchRange (runWrites w0 (({} : FS).applyAll acts) hist).2.1 {} b e res).2 =
        some (specRange (((runWrites w0 (({} : FS).applyAll acts) hist).2.2.drop k).map stored) b e res) := by
  obtain ⟨al, hinv, hsuf, hlatest⟩ := run_from_new maxSize maxFiles nowMs hist w0 acts hnew hgood hts
  obtain ⟨hrep, hwf, hlive⟩ := winv_rep_wf _ _ al _ _ hinv hbytes hitems hlatest
  exact ⟨_, fun b e res => List.suffix_iff_eq_drop.mp hsuf ▸ search_range_finds_all _ al hrep hwf hlive b e res⟩

/-- the same for the line-limited search (`find_from_time_with_max_lines`), against `specLinesOk` -/
theorem written_items_are_found_by_lines (maxSize maxFiles nowMs : Nat) (hist : List (Nat × List MItem)) (w0 : Writer) (acts : List Act)
    (hnew : Writer.new {} maxSize maxFiles nowMs = some (w0, acts))
    (hgood : ∀ p ∈ hist, ∀ it ∈ p.2, GoodItem { it with ts := p.1 })
    (hts : nowMs / 1000 < 18446744073709551616 ∧ ∀ p ∈ hist, p.1 / 1000 < 18446744073709551616)
    (hbytes : histBytes hist < 18446744073709551616) (hitems : histItems hist < MAX_ITEM_AMOUNT) :
    ∃ k, ∀ b n, 1 ≤ n → ∃ R,
      (searchLines (runWrites w0 (({} : FS).applyAll acts) hist).2.1 {} b n).2 = some R ∧
      specLinesOk (((runWrites w0 (({} : FS).applyAll acts) hist).2.2.drop k).map stored) b n R = true := by
  obtain ⟨al, hinv, hsuf, hlatest⟩ := run_from_new maxSize maxFiles nowMs hist w0 acts hnew hgood hts
  obtain ⟨hrep, hwf, hlive⟩ := winv_rep_wf _ _ al _ _ hinv hbytes hitems hlatest
  exact ⟨_, fun b n hn => List.suffix_iff_eq_drop.mp hsuf ▸ search_lines_ok _ al hrep hwf hlive b n hn⟩

/-- **Search on a crash state** (the last file may end in a torn line, a torn index entry, or still lack its index file): the
time-range search does not fail and returns every held item of the window, in order, then at most one more item (the torn line
misread). `hcap` is the room for that one item under the searcher's cap, as `CrashOK` hands it on; the proof does not use it
(`WF.cap` is enough). -/
theorem search_range_crash (fs : FS) (al : List AFile) (hrep : Rep fs al) (hwf : WF al)
    (hcap : (al.flatMap AFile.items).length + 1 < MAX_ITEM_AMOUNT)
    (htorn : ∀ f ∈ al.dropLast, f.tail = []) (b e : Nat) (res : List Char) :
    ∃ extra, extra.length ≤ 1 ∧
      (searchRange fs {} b e res).2 = some (specRange ((al.flatMap AFile.items).map stored) b e res ++ extra) := by
  obtain ⟨extra, he, _, h⟩ := search_range_spec fs al hrep hwf htorn b e res
  exact ⟨extra, he, h⟩

/-- **Line-limited search on a crash state** (same directories as `search_range_crash`): it does not fail, and its answer meets
`specLinesOk` on the held items up to at most one more item at the end (the torn line misread). -/
theorem search_lines_crash (fs : FS) (al : List AFile) (hrep : Rep fs al) (hwf : WF al)
    (htorn : ∀ f ∈ al.dropLast, f.tail = []) (b n : Nat) (hn : 1 ≤ n) :
    ∃ R extra, extra.length ≤ 1 ∧ (searchLines fs {} b n).2 = some (R ++ extra) ∧
      specLinesOk ((al.flatMap AFile.items).map stored) b n R = true := by
  obtain ⟨R, extra, he, _, h⟩ := search_lines_spec fs al hrep hwf htorn b n hn
  exact ⟨R, extra, he, h⟩

/-- **Crash anywhere in a write.** After any history `pre` of complete writes, let the writer die at any byte of the action
stream of the next `write` call (`k` complete actions and `j` bytes of the next one: inside the removals or creations of a
roll-over, inside the 16 bytes of an index entry, inside a line). A time-range search by a fresh searcher on what is on disk does
not fail and returns the held items of the window in write order - what was held before plus the first `m` items of the
interrupted call (those whose lines are complete), minus whole files removed by retention - then at most one more item (the torn
line misread). -/
theorem search_after_crash (maxSize maxFiles nowMs : Nat) (pre : List (Nat × List MItem)) (ts : Nat) (items : List MItem)
    (w0 : Writer) (acts : List Act) (hnew : Writer.new {} maxSize maxFiles nowMs = some (w0, acts))
    (hgoodPre : ∀ p ∈ pre, ∀ it ∈ p.2, GoodItem { it with ts := p.1 }) (hgood : ∀ it ∈ items, GoodItem { it with ts := ts })
    (hts : nowMs / 1000 < 18446744073709551616 ∧ (∀ p ∈ pre, p.1 / 1000 < 18446744073709551616) ∧ ts / 1000 < 18446744073709551616)
    (hbytes : histBytes pre + ((stamp ts items).flatMap lineBytes).length < 18446744073709551616)
    (hitems : histItems pre + items.length + 1 < MAX_ITEM_AMOUNT) (k j : Nat) :
    ∃ d m, ∀ b e res, ∃ extra : List MItem, extra.length ≤ 1 ∧
      (searchRange ((runWrites w0 (({} : FS).applyAll acts) pre).2.1.applyAll
          (crashPrefix ((runWrites w0 (({} : FS).applyAll acts) pre).1.write (runWrites w0 (({} : FS).applyAll acts) pre).2.1 ts items).2.1 k j))
        {} b e res).2 =
        some (specRange ((((runWrites w0 (({} : FS).applyAll acts) pre).2.2 ++
          (accepted (runWrites w0 (({} : FS).applyAll acts) pre).1 ts items).take m).drop d).map stored) b e res ++ extra) := by
  obtain ⟨al, hinv, hsuf, hlatest⟩ := run_from_new maxSize maxFiles nowMs pre w0 acts hnew hgoodPre ⟨hts.1, hts.2.1⟩
  obtain ⟨d, m, al', hrep, hwf, hcap, htorn, hheld⟩ :=
    crash_in_write_of _ _ al _ _ ts items hinv hgood hbytes hitems ⟨hlatest, hts.2.2⟩ hsuf k j
  exact ⟨d, m, fun b e res => hheld ▸ search_range_crash _ al' hrep hwf hcap htorn b e res⟩

/-- the same for the **line-limited search**, against `specLinesOk` on what is held -/
theorem search_lines_after_crash (maxSize maxFiles nowMs : Nat) (pre : List (Nat × List MItem)) (ts : Nat) (items : List MItem)
    (w0 : Writer) (acts : List Act) (hnew : Writer.new {} maxSize maxFiles nowMs = some (w0, acts))
    (hgoodPre : ∀ p ∈ pre, ∀ it ∈ p.2, GoodItem { it with ts := p.1 }) (hgood : ∀ it ∈ items, GoodItem { it with ts := ts })
    (hts : nowMs / 1000 < 18446744073709551616 ∧ (∀ p ∈ pre, p.1 / 1000 < 18446744073709551616) ∧ ts / 1000 < 18446744073709551616)
    (hbytes : histBytes pre + ((stamp ts items).flatMap lineBytes).length < 18446744073709551616)
    (hitems : histItems pre + items.length + 1 < MAX_ITEM_AMOUNT) (k j : Nat) :
    ∃ d m, ∀ b n, 1 ≤ n → ∃ R extra : List MItem, extra.length ≤ 1 ∧
      (searchLines ((runWrites w0 (({} : FS).applyAll acts) pre).2.1.applyAll
          (crashPrefix ((runWrites w0 (({} : FS).applyAll acts) pre).1.write (runWrites w0 (({} : FS).applyAll acts) pre).2.1 ts items).2.1 k j))
        {} b n).2 = some (R ++ extra) ∧
      specLinesOk ((((runWrites w0 (({} : FS).applyAll acts) pre).2.2 ++
          (accepted (runWrites w0 (({} : FS).applyAll acts) pre).1 ts items).take m).drop d).map stored) b n R = true := by
  obtain ⟨al, hinv, hsuf, hlatest⟩ := run_from_new maxSize maxFiles nowMs pre w0 acts hnew hgoodPre ⟨hts.1, hts.2.1⟩
  obtain ⟨d, m, al', hrep, hwf, hcap, htorn, hheld⟩ :=
    crash_in_write_of _ _ al _ _ ts items hinv hgood hbytes hitems ⟨hlatest, hts.2.2⟩ hsuf k j
  exact ⟨d, m, fun b n hn => hheld ▸ search_lines_crash _ al' hrep hwf htorn b n hn⟩

/-- **Crash while the writer is being created** (`DefaultMetricLogWriter::new` on an empty directory issues two creations: the log
file, then its index file): whatever prefix of them has happened - nothing, the log file without its index, both - both searches
by a fresh searcher answer with the empty list and do not fail. -/
theorem search_after_crash_in_new (maxSize maxFiles nowMs : Nat) (w0 : Writer) (acts : List Act)
    (hnew : Writer.new {} maxSize maxFiles nowMs = some (w0, acts)) (k j : Nat) :
    (∀ b e res, (searchRange (({} : FS).applyAll (crashPrefix acts k j)) {} b e res).2 = some []) ∧
    (∀ b n, 1 ≤ n → (searchLines (({} : FS).applyAll (crashPrefix acts k j)) {} b n).2 = some []) := by
  obtain ⟨-, -, rfl⟩ := Writer.new_eq_some hnew
  obtain ⟨al', q, hrep, hal⟩ := roll_prefix_state ({} : FS) [] ⟨rfl, rfl⟩ (by simp [IdsSorted]) maxFiles nowMs (by simp) k j
  have haok : AOk 0 al' 0 0 := by
    rcases hal with rfl | rfl
    · exact (AOk.nil 0).drop q
    · exact ((AOk.nil 0).drop q).snoc_new _
  have hitems : al'.flatMap AFile.items = [] := List.eq_nil_of_length_eq_zero (Nat.le_zero.mp haok.items)
  have hwf := haok.wf (by omega) (by simp [MAX_ITEM_AMOUNT]) (by omega)
  constructor
  · intro b e res
    rw [search_range_finds_all _ al' hrep hwf haok.live b e res, hitems]
    rfl
  · intro b n hn
    obtain ⟨R, h1, h2⟩ := search_lines_ok _ al' hrep hwf haok.live b n hn
    rw [hitems] at h2
    have hR : R = [] := by
      unfold specLinesOk at h2
      simp only [List.map_nil, fromSec, List.filter_nil, List.take_nil, Bool.and_eq_true, beq_iff_eq] at h2
      exact h2.1.1
    rw [h1, hR]

/-- what a program does with one writer and one long-lived searcher -/
inductive Step
  | write (ts : Nat) (items : List MItem)
  | range (b e : Nat) (res : List Char)
  | lines (b n : Nat)

/-- every search of the session, answered through the searcher's cached position, gives the answer a fresh searcher would give -/
def sessionOk (w : Writer) (fs : FS) (c : Cache) : List Step → Prop
  | [] => True
  | .write ts items :: rest => sessionOk (w.write fs ts items).1 (fs.applyAll (w.write fs ts items).2.1) c rest
  | .range b e res :: rest =>
    (searchRange fs c b e res).2 = (searchRange fs {} b e res).2 ∧ sessionOk w fs (searchRange fs c b e res).1 rest
  | .lines b n :: rest =>
    (searchLines fs c b n).2 = (searchLines fs {} b n).2 ∧ sessionOk w fs (searchLines fs c b n).1 rest

def stepsBytes : List Step → Nat
  | [] => 0
  | .write ts items :: rest => ((stamp ts items).flatMap lineBytes).length + stepsBytes rest
  | _ :: rest => stepsBytes rest

def stepsItems : List Step → Nat
  | [] => 0
  | .write _ items :: rest => items.length + stepsItems rest
  | _ :: rest => stepsItems rest

def stepsGood (M : Nat) : List Step → Prop
  | [] => True
  | .write ts items :: rest => (∀ it ∈ items, GoodItem { it with ts := ts }) ∧ ts / 1000 ≤ M ∧ stepsGood M rest
  | _ :: rest => stepsGood M rest

theorem session_inv (steps : List Step) (w : Writer) (fs : FS) (al : List AFile) (B N M : Nat) (c : Cache)
    (h : WInv w fs al B N) (hc : CacheInv al c) (hgood : stepsGood M steps) (hM : w.latest ≤ M ∧ M < 18446744073709551616)
    (hB : B + stepsBytes steps < 18446744073709551616) (hN : N + stepsItems steps < MAX_ITEM_AMOUNT) :
    sessionOk w fs c steps := by
  induction steps generalizing w fs al B N c with
  | nil => trivial
  | cons st rest ih =>
    cases st <;> simp only [sessionOk, stepsGood, stepsBytes, stepsItems] at hgood hB hN ⊢
    case write ts items =>
      obtain ⟨al', hinv', _, hcache, _⟩ := write_moves w fs al B N ts items h hgood.1
      exact ih _ _ al' _ _ c hinv' (hcache c hc) hgood.2.2 ⟨write_latest_le w fs ts items M hM.1 hgood.2.1, hM.2⟩ (by omega) (by omega)
    -- `cached_search_eq_fresh` speaks of both searches at once: the arguments of the one not made are `0` and `[]`
    case range b e res =>
      obtain ⟨hrep, hwf, hlive⟩ := winv_rep_wf w fs al B N h (by omega) (by omega) (by omega)
      obtain ⟨h1, h2, _, _⟩ := cached_search_eq_fresh fs al hrep hwf hlive h.ids c hc b e res 0
      exact ⟨h1, ih w fs al B N _ h h2 hgood hM hB hN⟩
    case lines b n =>
      obtain ⟨hrep, hwf, hlive⟩ := winv_rep_wf w fs al B N h (by omega) (by omega) (by omega)
      obtain ⟨_, _, h3, h4⟩ := cached_search_eq_fresh fs al hrep hwf hlive h.ids c hc b 0 [] n
      exact ⟨h3, ih w fs al B N _ h h4 hgood hM hB hN⟩

/-- **A long-lived searcher answers like a fresh one.** Create a writer and a searcher; interleave any writes with any searches
of both kinds through that one searcher (whose cached position is updated by every search): each search returns exactly what a
fresh searcher returns on the directory of that moment. -/
theorem long_lived_searcher (maxSize maxFiles nowMs M : Nat) (steps : List Step) (w0 : Writer) (acts : List Act)
    (hnew : Writer.new {} maxSize maxFiles nowMs = some (w0, acts))
    (hgood : stepsGood M steps) (hM : nowMs / 1000 ≤ M ∧ M < 18446744073709551616)
    (hB : stepsBytes steps < 18446744073709551616) (hN : stepsItems steps < MAX_ITEM_AMOUNT) :
    sessionOk w0 (({} : FS).applyAll acts) {} steps := by
  obtain ⟨al0, hinv0, _⟩ := new_writer_well_formed maxSize maxFiles nowMs w0 acts hnew
  have hlatest : w0.latest ≤ M := (Writer.new_eq_some hnew).2.1 ▸ hM.1
  exact session_inv steps w0 _ al0 0 0 M {} hinv0 (cacheInv_empty al0) hgood ⟨hlatest, hM.2⟩ (by omega) (by omega)

/-- retention: a roll-over keeps the newest `maxFiles - 1` files (all of them while there are fewer) -/
theorem retention_keeps_newest (n maxFiles : Nat) (h : 0 < maxFiles) : n - dropCount n maxFiles = min n (maxFiles - 1) := by
  unfold dropCount
  split <;> omega

/-! non-vacuity: a concrete history (two seconds, one roll-over by size, no file removed) meets the hypothesis `hgood` of the end
results; the model executed on it creates the writer (`hnew`) and gives the expected answer -/
def exItem (r : String) (p : Nat) : MItem :=
  { resource := r.toList, rtype := 1, ts := 0, pass := p, block := 0, complete := p, error := 0, rt := 3, occupied := 0, conc := 1 }
def exHist : List (Nat × List MItem) :=
  [(1700000001000, [exItem "a" 1, exItem "b" 2]), (1700000001500, [exItem "a" 3]), (1700000002000, [exItem "c" 4])]

example : ∀ p ∈ exHist, ∀ it ∈ p.2, GoodItem { it with ts := p.1 } := by
  unfold GoodItem MItem.inRange plainC
  decide

/-- the model executed on that history (a test): a 100-byte size limit rolls the file after the second write -/
def exRun := match Writer.new {} 100 2 1700000000500 with
  | some (w, acts) => some (runWrites w (({} : FS).applyAll acts) exHist)
  | none => none

example : (exRun.map (fun r => (r.2.1.listLogs, (searchRange r.2.1 {} 1700000001500 1700000002999 "a".toList).2.map (·.map (fun it => (it.ts, it.pass)))))) =
    some ([⟨19675, 0⟩, ⟨19675, 1⟩], some [(1700000001000, 1), (1700000001500, 3)]) := by decide +kernel

/-! The single clauses of the property, each under the name DESIGN gives it, from the lemma of the same content in
`Lemmas/MetricLog`; the theorems above do not use these restatements. -/

/-- index entries are read back as written -/
theorem index_entry_roundtrip (n : Nat) (rest : Bytes) (h : n < 18446744073709551616) : unbe64 (be64 n ++ rest) = some n :=
  unbe64_be64 n rest h

/-- the index search finds the first group at or after the begin second and the byte offset of its first line; a torn last
entry (fewer than 16 bytes) never changes the answer -/
theorem index_search_first_entry (gs : List Group) (b : Nat) (torn : Bytes) (ht : torn.length < 16)
    (hs : ∀ g ∈ gs, g.1 < 18446744073709551616) (ho : (groupsBytes gs).length < 18446744073709551616) :
    findEntry (idxOf 0 gs ++ torn) b = firstOffset gs b := by
  rw [findEntry_idxOf gs 0 b torn ht hs (by omega)]
  simp

/-- every character survives the UTF-8 round trip of the model's own encoder/decoder -/
theorem utf8_roundtrip (cs : List Char) : decodeUtf8 (utf8Encode cs) = some cs := decodeUtf8_encode cs

/-- a written line is one line and reads back as the stored form of the item -/
theorem written_line_reads_back (it : MItem) (h : GoodItem it) : 10 ∉ lineOf it ∧ parseLine (lineOf it) = some (stored it) :=
  ⟨lineOf_no_nl it h, parseLine_lineOf it h⟩

/-- every `write` keeps it; the log gains exactly the accepted items and loses only whole oldest files. The list
`items.map (fun it => { it with ts := ts })` is `stamp ts items` -/
theorem write_keeps_well_formed (w : Writer) (fs : FS) (al : List AFile) (B N ts : Nat) (items : List MItem) (h : WInv w fs al B N)
    (hgood : ∀ it ∈ items, GoodItem { it with ts := ts }) :
    ∃ al', WInv (w.write fs ts items).1 (fs.applyAll (w.write fs ts items).2.1) al'
      (B + ((items.map (fun it => { it with ts := ts })).flatMap lineBytes).length) (N + items.length) ∧
      (∃ k, al'.flatMap AFile.items = (al.flatMap AFile.items ++ accepted w ts items).drop k) ∧
      ∀ c, CacheInv al c → CacheInv al' c := by
  obtain ⟨al', hinv, hsuf, hc, _⟩ := write_moves w fs al B N ts items h hgood
  exact ⟨al', hinv, ⟨_, List.suffix_iff_eq_drop.mp hsuf⟩, hc⟩

/-- a roll-over removes the oldest files beyond the limit, adds a new empty file whose name sorts after all others -/
theorem rollover_spec (fs : FS) (al : List AFile) (h : RepL fs al) (hs : IdsSorted (al.map (·.id))) (maxFiles tsMs : Nat)
    (hd : ∀ f ∈ al, f.id.day ≤ dayOfSec (tsMs / 1000)) :
    RepL (fs.applyAll (rollActs fs maxFiles tsMs).2) (al.drop (dropCount al.length maxFiles) ++ [AFile.new (rollActs fs maxFiles tsMs).1]) ∧
    IdsSorted ((al.drop (dropCount al.length maxFiles) ++ [AFile.new (rollActs fs maxFiles tsMs).1]).map (·.id)) ∧
    (rollActs fs maxFiles tsMs).1.day = dayOfSec (tsMs / 1000) :=
  let r := roll_runs fs al h hs maxFiles tsMs hd
  ⟨r.1.rep, r.2⟩

end Sentinel.MLog
