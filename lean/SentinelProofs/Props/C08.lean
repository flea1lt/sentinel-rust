import Sentinel.World
import Mathlib.Tactic.Ring
import Mathlib.Tactic.Linarith
import Mathlib.Algebra.Order.Field.Basic
/-!
# C08 — warm-up ramps from threshold/coldFactor up to threshold, and cools when idle (PARTIAL)

Proved: facts about the executable calculator `WarmUp.sync` / `WarmUp.allowed` (every state, threshold and clock value), and
exact-arithmetic facts about the formulas the `f64` code evaluates.
NOT proved (validated on every run instead, by the Spec oracle on the implementation's traces and the bit-exact correspondence of
the soft-float model): that the `f64` evaluation stays within rounding distance of the exact formula, and the closed-loop
trajectory (per-second admissions never decrease under saturating demand and reach `q` within `2p+2` seconds), which feeds the
measured previous-second QPS back into the calculator.
-/
set_option autoImplicit false
namespace Sentinel

/-! ## the executable calculator -/

/-- tokens are synchronised at most once per second boundary -/
theorem sync_once_per_second (s : WarmUp) (thr : F64) (now : Nat) (qps : F64) (h : now - now % 1000 ≤ s.lastFilled) :
    s.sync thr now qps = s := by
  simp only [WarmUp.sync, h, if_true]

/-- `sync_token` in a new second, in one equation: the code's clamp `if v < d then 0 else v - d` is the truncated subtraction `v - d` -/
theorem sync_eq (s : WarmUp) (thr : F64) (now : Nat) (qps : F64) (hnew : s.lastFilled < now - now % 1000) :
    s.sync thr now qps =
      { s with
        stored := min (if s.stored < s.warning ∨ F64.lt qps (F64.floor (F64.div thr (F64.ofNat s.coldFactor))) = true
            then s.stored + (F64.div (F64.mul (F64.ofNat (now - now % 1000 - s.lastFilled)) thr) (F64.ofNat 1000)).toNatFloor
            else s.stored) s.maxToken - qps.toNatFloor,
        lastFilled := now - now % 1000 } := by
  unfold WarmUp.sync
  rw [if_neg (Nat.not_le.mpr hnew)]
  simp only [Bool.or_eq_true, decide_eq_true_eq]
  have hclamp : ∀ v d : Nat, (if v < d then 0 else v - d) = v - d := by
    intro v d
    split
    · omega
    · rfl
  rw [hclamp]

theorem sync_stored_le_max (s : WarmUp) (thr : F64) (now : Nat) (qps : F64) (h : s.stored ≤ s.maxToken) :
    (s.sync thr now qps).stored ≤ (s.sync thr now qps).maxToken := by
  by_cases h0 : now - now % 1000 ≤ s.lastFilled
  · rw [sync_once_per_second s thr now qps h0]; exact h
  · rw [sync_eq s thr now qps (Nat.not_le.mp h0)]
    exact Nat.le_trans (Nat.sub_le _ _) (Nat.min_le_right _ _)

/-- a second call in the same second is a no-op -/
theorem sync_idempotent (s : WarmUp) (thr : F64) (now : Nat) (q1 q2 : F64) :
    ((s.sync thr now q1).sync thr now q2) = s.sync thr now q1 := by
  apply sync_once_per_second
  by_cases h : now - now % 1000 ≤ s.lastFilled
  · rw [sync_once_per_second s thr now q1 h]
    exact h
  · -- the fill time has moved to the second boundary
    exact Nat.le_of_eq (congrArg WarmUp.lastFilled (sync_eq s thr now q1 (Nat.not_le.mp h))).symm

/-- the drain is exactly the previous second's QPS (truncated), clamped at zero -/
theorem drain_by_previous_qps (s : WarmUp) (thr : F64) (now : Nat) (qps : F64)
    (hnew : s.lastFilled < now - now % 1000)
    (hw : s.warning ≤ s.stored) (hq : F64.lt qps (F64.floor (F64.div thr (F64.ofNat s.coldFactor))) = false)
    (hm : s.stored ≤ s.maxToken) :
    (s.sync thr now qps).stored = s.stored - qps.toNatFloor := by
  have hsat : ¬ (s.stored < s.warning ∨ F64.lt qps (F64.floor (F64.div thr (F64.ofNat s.coldFactor))) = true) := by
    rw [hq]
    exact not_or.mpr ⟨Nat.not_lt.mpr hw, Bool.false_ne_true⟩
  rw [sync_eq s thr now qps hnew, if_neg hsat, Nat.min_eq_left hm]

/-- **No refill while saturated**: at or above the warning line, with the previous second's QPS not below ⌊q/c⌋, tokens only drain -/
theorem no_refill_when_saturated (s : WarmUp) (thr : F64) (now : Nat) (qps : F64)
    (hw : s.warning ≤ s.stored) (hq : F64.lt qps (F64.floor (F64.div thr (F64.ofNat s.coldFactor))) = false)
    (hm : s.stored ≤ s.maxToken) :
    (s.sync thr now qps).stored ≤ s.stored := by
  by_cases h0 : now - now % 1000 ≤ s.lastFilled
  · exact Nat.le_of_eq (congrArg WarmUp.stored (sync_once_per_second s thr now qps h0))
  · rw [drain_by_previous_qps s thr now qps (Nat.not_le.mp h0) hw hq hm]
    exact Nat.sub_le _ _

/-- **Refill when cold or under-used**: below the warning line, or when the previous second passed fewer than ⌊q/c⌋, the bucket
is refilled at rate `q` for the elapsed time (capped at the maximum) before the drain -/
theorem refill_when_cold_or_low (s : WarmUp) (thr : F64) (now : Nat) (qps : F64)
    (hnew : s.lastFilled < now - now % 1000)
    (h : s.stored < s.warning ∨ F64.lt qps (F64.floor (F64.div thr (F64.ofNat s.coldFactor))) = true) :
    let refill := (F64.div (F64.mul (F64.ofNat (now - now % 1000 - s.lastFilled)) thr) (F64.ofNat 1000)).toNatFloor
    (s.sync thr now qps).stored = min (s.stored + refill) s.maxToken - qps.toNatFloor := by
  rw [sync_eq s thr now qps hnew, if_pos h]

/-- **Idle cools**: when nothing passed in the previous second and the elapsed-time refill covers the bucket, the calculator is
cold again (stored tokens = maximum) -/
theorem idle_cools (s : WarmUp) (thr : F64) (now : Nat) (qps : F64)
    (hnew : s.lastFilled < now - now % 1000)
    (hidle : qps.toNatFloor = 0) (hlow : F64.lt qps (F64.floor (F64.div thr (F64.ofNat s.coldFactor))) = true)
    (hcover : s.maxToken ≤ s.stored + (F64.div (F64.mul (F64.ofNat (now - now % 1000 - s.lastFilled)) thr) (F64.ofNat 1000)).toNatFloor) :
    (s.sync thr now qps).stored = s.maxToken := by
  rw [sync_eq s thr now qps hnew, if_pos (Or.inr hlow), hidle, Nat.min_eq_right hcover]
  rfl

/-- below the warning line the allowance is the full threshold -/
theorem allowed_full_below_warning (s : WarmUp) (thr : F64) (h : s.stored < s.warning) : s.allowed thr = thr := by
  unfold WarmUp.allowed
  rw [if_neg (Nat.not_le.mpr h)]

/-- `Controller::perform_checking` of a warm-up/reject controller -/
theorem step_warmUp_reject (c : FlowCtrl) (s : WarmUp) (node : Node) (nowNs batch : Nat)
    (hc : c.calcr = .warmUp s) (hk : c.checker = .reject) :
    c.step node nowNs batch =
      let s' := s.sync c.thr (nowNs / 1000000) (c.qpsPrevious node (nowNs / 1000000))
      ({ c with calcr := .warmUp s' },
        if F64.ltNat (s'.allowed c.thr) (c.curCount node (nowNs / 1000000) + batch)
        then .blocked c.id (toString (c.curCount node (nowNs / 1000000))) else .pass) := by
  unfold FlowCtrl.step FlowCtrl.allowed
  simp only [hc, hk]
  exact (apply_ite (Prod.mk _) _ _ _).symm

/-- the rule's decision uses the allowance: a warm-up/reject controller blocks iff window count + batch exceeds it -/
theorem warmup_step_decision (c : FlowCtrl) (s : WarmUp) (node : Node) (nowNs batch : Nat)
    (hc : c.calcr = .warmUp s) (hk : c.checker = .reject) :
    ((c.step node nowNs batch).2 = .pass ↔
      F64.ltNat ((s.sync c.thr (nowNs / 1000000) (c.qpsPrevious node (nowNs / 1000000))).allowed c.thr)
        (c.curCount node (nowNs / 1000000) + batch) = false) := by
  rw [step_warmUp_reject c s node nowNs batch hc hk]
  dsimp only
  cases F64.ltNat _ (c.curCount node (nowNs / 1000000) + batch) with
  | false => exact ⟨fun _ => rfl, fun _ => rfl⟩
  | true => exact ⟨fun h => (nomatch h), fun h => (nomatch h)⟩

/-! ## the exact formulas behind the float code -/

/-- The expression `1 / (a * ((c - 1) / q / W) + 1 / q)` of the four theorems below is `allowQ q c W a` (defined further down), the
exact counterpart of `WarmUp.allowed`'s `1 / ((stored − warning) · slope + 1 / thr)` with `slope = (c − 1) / thr / (max − warning)`
(`WarmUp.new`). Its denominator as the point `a/W` of the way from `1/q` (warm) to `c/q` (cold): the two ends and antitonicity are read off
this form, and the bounds are antitonicity between the ends. -/
theorem allow_den (q c W a : ℚ) :
    a * ((c - 1) / q / W) + 1 / q = (a / W * (c - 1) + 1) / q := by
  ring

/-- the cold end: the bucket full (`above = W`) -/
theorem allowedQ_cold (q c W : ℚ) (hq : 0 < q) (hc : 1 < c) (hW : 0 < W) :
    1 / (W * ((c - 1) / q / W) + 1 / q) = q / c := by
  rw [allow_den q c W W, one_div_div, div_self hW.ne']
  ring_nf

/-- the warm end: at the warning line (`above = 0`) -/
theorem allowedQ_warm (q c W : ℚ) (hq : 0 < q) : 1 / ((0 : ℚ) * ((c - 1) / q / W) + 1 / q) = q := by
  rw [zero_mul, zero_add, one_div_one_div]

/-- **The allowance never decreases as tokens drain** (exact arithmetic) -/
theorem allowedQ_antitone (q c W a b : ℚ) (hq : 0 < q) (hc : 1 < c) (hW : 0 < W) (h0 : 0 ≤ a) (hab : a ≤ b) :
    1 / (b * ((c - 1) / q / W) + 1 / q) ≤ 1 / (a * ((c - 1) / q / W) + 1 / q) := by
  have hc1 : 0 ≤ c - 1 := sub_nonneg.mpr hc.le
  have h1 : 0 ≤ a / W * (c - 1) := mul_nonneg (div_nonneg h0 hW.le) hc1
  have h2 : a / W * (c - 1) ≤ b / W * (c - 1) := mul_le_mul_of_nonneg_right (div_le_div_of_nonneg_right hab hW.le) hc1
  rw [allow_den q c W a, allow_den q c W b, one_div_div, one_div_div]
  exact div_le_div_of_nonneg_left hq.le (add_pos_of_nonneg_of_pos h1 one_pos) (add_le_add_left h2 1)

/-- **Allowance bounds** (exact arithmetic; `W = max − warning`, slope `(c−1)/q/W`): between the cold rate `q/c` and the threshold `q`,
the allowances at the two ends of the range of `above` -/
theorem allowedQ_bounds (q c W above : ℚ) (hq : 0 < q) (hc : 1 < c) (hW : 0 < W) (h0 : 0 ≤ above) (hA : above ≤ W) :
    q / c ≤ 1 / (above * ((c - 1) / q / W) + 1 / q) ∧ 1 / (above * ((c - 1) / q / W) + 1 / q) ≤ q := by
  have hcold := allowedQ_antitone q c W above W hq hc hW h0 hA
  have hwarm := allowedQ_antitone q c W 0 above hq hc hW le_rfl h0
  rw [allowedQ_cold q c W hq hc hW] at hcold
  rw [allowedQ_warm q c W hq] at hwarm
  exact ⟨hcold, hwarm⟩

/-- **Idle for `2·p` seconds refills everything**, in natural-number arithmetic: the left side is the bucket capacity as
`WarmUp.new` would compute it exactly, the right the refill of `2·p` seconds at rate `q`. `WarmUp.new` itself computes the
capacity in `f64` (`F64.div … toNatFloor`); no theorem ties the two, and they differ once `q` exceeds 2^53. -/
theorem max_token_le_two_periods (p q c : Nat) (hc : 2 ≤ c) :
    p * q / (c - 1) + 2 * (p * q / (c + 1)) ≤ 2 * p * q := by
  have h1 : p * q / (c - 1) ≤ p * q := Nat.div_le_self _ _
  have h2 : p * q / (c + 1) ≤ p * q / 3 := Nat.div_le_div_left (by omega) (by omega)
  have h3 : 2 * (p * q / 3) ≤ p * q := by omega
  rw [Nat.mul_assoc, Nat.two_mul (p * q)]
  omega

/-! ## the closed loop, idealised (exact arithmetic, the measured previous-second rate equals the allowance) -/

/-- the allowance with `above` tokens over the warning line, exact arithmetic (the expression the `allowedQ_*` theorems spell out) -/
def allowQ (q c W above : ℚ) : ℚ := 1 / (above * ((c - 1) / q / W) + 1 / q)

/-- **Closed loop under saturating demand, idealised — PARTIAL for the property's "reaches q within 2p+2 s"**: `f k` = tokens
above the warning line at second `k`. While it is positive `sync_token` refills nothing (`no_refill_when_saturated`) and drains
what was admitted, the allowance (`drain_by_previous_qps`); so the warning line, from which on the allowance is `q`
(`allowed_full_below_warning`), is reached within `n` seconds once `n · q/c ≥ W`.
Left out by the idealisation: f64 rounding, the floors in `warning`/`max_token`, and the measured rate of the previous
*statistic* second standing in for the allowance; those are covered by the bit-exact validation only. -/
theorem closed_loop_ideal_reaches_warning_partial (q c W : ℚ) (hq : 0 < q) (hc : 1 < c) (hW : 0 < W)
    (f : ℕ → ℚ) (h0 : f 0 ≤ W) (hstep : ∀ k, 0 < f k → f (k + 1) = f k - allowQ q c W (f k))
    (n : ℕ) (hn : W ≤ n * (q / c)) : ∃ k, k ≤ n ∧ f k ≤ 0 := by
  by_contra hcon
  have hpos : ∀ k, k ≤ n → 0 < f k := fun k hk => lt_of_not_ge (fun h => hcon ⟨k, hk, h⟩)
  -- while positive, `f` loses at least the cold rate `q/c` every second
  have hb : ∀ k, k ≤ n → f k ≤ W - k * (q / c) := by
    intro k
    induction k with
    | zero =>
      intro _
      rw [Nat.cast_zero, zero_mul, sub_zero]
      exact h0
    | succ k ih =>
      intro hk
      have ihk := ih (Nat.le_of_succ_le hk)
      have hp := hpos k (Nat.le_of_succ_le hk)
      have hqc : 0 ≤ (k : ℚ) * (q / c) := mul_nonneg (Nat.cast_nonneg k) (div_pos hq (zero_lt_one.trans hc)).le
      have hall := (allowedQ_bounds q c W (f k) hq hc hW hp.le (le_trans ihk (sub_le_self W hqc))).1
      rw [hstep k hp, Nat.cast_succ, add_mul, one_mul, ← sub_sub]
      exact sub_le_sub ihk hall
  exact absurd (hpos n le_rfl) (not_lt.mpr (le_trans (hb n le_rfl) (sub_nonpos.mpr hn)))

/-- **The allowance never decreases while demand stays saturating (idealised loop) — PARTIAL as above** -/
theorem closed_loop_ideal_allowance_monotone_partial (q c W : ℚ) (hq : 0 < q) (hc : 1 < c) (hW : 0 < W)
    (f : ℕ → ℚ) (hstep : ∀ k, 0 < f k → f (k + 1) = f k - allowQ q c W (f k)) (k : ℕ) (hk : 0 < f k) (hk1 : 0 ≤ f (k + 1)) :
    f (k + 1) ≤ f k ∧ allowQ q c W (f k) ≤ allowQ q c W (f (k + 1)) := by
  have hslope : 0 ≤ (c - 1) / q / W := div_nonneg (div_nonneg (sub_nonneg.mpr hc.le) hq.le) hW.le
  have hpos : 0 < allowQ q c W (f k) :=
    one_div_pos.mpr (add_pos_of_nonneg_of_pos (mul_nonneg hk.le hslope) (one_div_pos.mpr hq))
  have hle : f (k + 1) ≤ f k := by rw [hstep k hk]; exact sub_le_self _ hpos.le
  exact ⟨hle, allowedQ_antitone q c W (f (k + 1)) (f k) hq hc hW hk1 hle⟩

/-- with the exact bucket geometry `W = 2·p·q/(c+1)` the bound is `2·p` seconds -/
theorem closed_loop_ideal_within_two_periods_partial (q c : ℚ) (p : ℕ) (hq : 0 < q) (hc : 1 < c) (hp : 0 < p)
    (f : ℕ → ℚ) (h0 : f 0 ≤ 2 * p * q / (c + 1))
    (hstep : ∀ k, 0 < f k → f (k + 1) = f k - allowQ q c (2 * p * q / (c + 1)) (f k)) :
    ∃ k, k ≤ 2 * p ∧ f k ≤ 0 := by
  have hp' : (0 : ℚ) < p := Nat.cast_pos.mpr hp
  have hnum : 0 < 2 * (p : ℚ) * q := mul_pos (mul_pos two_pos hp') hq
  refine closed_loop_ideal_reaches_warning_partial q c _ hq hc (div_pos hnum (add_pos (zero_lt_one.trans hc) one_pos)) f h0 hstep (2 * p) ?_
  -- `2p` seconds at the cold rate admit `2p·q/c`, and `c < c + 1`
  rw [Nat.cast_mul, Nat.cast_ofNat, ← mul_div_assoc]
  exact div_le_div_of_nonneg_left hnum.le (zero_lt_one.trans hc) (le_add_of_nonneg_right zero_le_one)

/-- the loop started on the full bucket, q = 100, c = 3, p = 1 (W = 50): below the line after 2 s -/
example : allowQ 100 3 50 50 = 100 / 3 ∧ (50 : ℚ) - 100 / 3 - allowQ 100 3 50 (50 - 100 / 3) ≤ 0 := by
  unfold allowQ; constructor <;> norm_num

/-- `WarmUp.new` for q = 100, period 3 s, cold factor 3 -/
example : (WarmUp.new (F64.ofNat 100) 3 3).warning = 150 ∧ (WarmUp.new (F64.ofNat 100) 3 3).maxToken = 300 := by decide
/-- a cold calculator stays full on an idle second -/
example : ((WarmUp.new (F64.ofNat 100) 3 3).sync (F64.ofNat 100) 1700000000000 F64.zero).stored = 300 := by decide

end Sentinel
