import Sentinel.ConcModels
import SentinelProofs.Lemmas.List
/-!
# C14 — concurrent entries share one statistics node, accounted without loss or excess

All statements quantify over every interleaving (`Interleaving ps h`: `h` is any history in which each thread's actions
appear in program order) of any number of threads.
-/
set_option autoImplicit false
namespace Sentinel.Conc

theorem interleaving_perm {α : Type} (ps : List (List α)) (h : List α) (hi : Interleaving ps h) : h.Perm ps.flatten := by
  induction hi with
  | done ps hall => rw [List.flatten_eq_nil_iff.mpr hall]
  | pick ps i a rest h hget _ ih =>
    exact (List.Perm.cons a ih).trans (flatten_pick ps i a rest hget).symm

/-- a measure of histories that adds up over concatenation and does not depend on the order is, over an interleaving, the sum of
the threads' measures -/
theorem interleaving_additive {α β : Type} [Add β] [Zero β] (g : List α → β) (hnil : g [] = 0)
    (happ : ∀ a b, g (a ++ b) = g a + g b) (hperm : ∀ a b, a.Perm b → g a = g b)
    (ps : List (List α)) (h : List α) (hi : Interleaving ps h) : g h = (ps.map g).sum := by
  rw [hperm h ps.flatten (interleaving_perm ps h hi)]
  clear hi
  induction ps with
  | nil => exact hnil
  | cons p ps ih => rw [List.flatten_cons, happ, ih, List.map_cons, List.sum_cons]

theorem concOf_perm (h h' : List NAct) (hp : h.Perm h') : concOf h = concOf h' := by
  unfold concOf
  rw [hp.countP_eq, hp.countP_eq]

theorem concOf_append (a b : List NAct) : concOf (a ++ b) = concOf a + concOf b := by
  unfold concOf
  simp only [List.countP_append]
  omega

/-- **In-flight count = un-exited entries, whatever the interleaving** -/
theorem conc_eq_open (ps : List (List NAct)) (h : List NAct) (hi : Interleaving ps h) :
    concOf h = (ps.map concOf).sum :=
  interleaving_additive concOf rfl concOf_append concOf_perm ps h hi

/-- the summands of `conc_eq_open`: a thread that passed `n` entries and exited `m` of them contributes `n − m` -/
theorem concOf_thread (n m : Nat) : concOf (List.replicate n .inc ++ List.replicate m .dec) = (n : Int) - m := by
  unfold concOf
  simp [List.countP_append, List.countP_replicate]

theorem recorded_append (k : Nat) (a b : List NAct) : recorded k (a ++ b) = recorded k a + recorded k b := by
  unfold recorded; simp [List.sum_append]

theorem recorded_interleaving (k : Nat) (ps : List (List NAct)) (h : List NAct) (hi : Interleaving ps h) :
    recorded k h = (ps.map (recorded k)).sum :=
  interleaving_additive (recorded k) rfl (recorded_append k) (fun _ _ hp => (hp.map _).sum_nat) ps h hi

/-- one action's effect on bucket counter `k` -/
def NAct.apply (k acc : Nat) : NAct → Nat
  | .add k' v => if k' = k then acc + v else acc
  | .reset k' => if k' = k then 0 else acc
  | _ => acc

theorem counterFrom_cons (k acc : Nat) (a : NAct) (h : List NAct) :
    counterFrom k acc (a :: h) = counterFrom k (a.apply k acc) h := by
  cases a <;> rfl

theorem recorded_cons (k : Nat) (a : NAct) (h : List NAct) : recorded k (a :: h) = a.amount k + recorded k h := rfl

theorem NAct.apply_le_and_eq (k acc : Nat) (a : NAct) :
    a.apply k acc ≤ acc + a.amount k ∧ ((∀ k', a ≠ .reset k') → a.apply k acc = acc + a.amount k) := by
  cases a with
  | reset k' =>
    refine ⟨?_, fun hn => absurd rfl (hn k')⟩
    simp only [NAct.apply]
    split <;> omega
  | add k' v =>
    simp only [NAct.apply, NAct.amount]
    split <;> simp
  | _ => simp [NAct.apply, NAct.amount]

theorem counterFrom_le_and_eq (k acc : Nat) (h : List NAct) :
    counterFrom k acc h ≤ acc + recorded k h ∧
      ((∀ a ∈ h, ∀ k', a ≠ .reset k') → counterFrom k acc h = acc + recorded k h) := by
  induction h generalizing acc with
  | nil => exact ⟨Nat.le_refl _, fun _ => rfl⟩
  | cons a rest ih =>
    rw [counterFrom_cons, recorded_cons]
    obtain ⟨hle, heq⟩ := NAct.apply_le_and_eq k acc a
    obtain ⟨ihle, iheq⟩ := ih (a.apply k acc)
    refine ⟨by omega, fun hn => ?_⟩
    rw [iheq (fun b hb => hn b (List.mem_cons_of_mem _ hb)), heq (hn a List.mem_cons_self), Nat.add_assoc]

/-- **Within one statistic bucket (no roll-over), every total equals the sum over all threads** -/
theorem totals_eq_sums_one_bucket (k : Nat) (ps : List (List NAct)) (h : List NAct) (hi : Interleaving ps h)
    (hn : ∀ p ∈ ps, ∀ a ∈ p, ∀ k', a ≠ .reset k') :
    counterOf k h = (ps.map (recorded k)).sum := by
  have hn' : ∀ a ∈ h, ∀ k', a ≠ .reset k' := by
    intro a ha
    obtain ⟨p, hp, hap⟩ := List.mem_flatten.mp ((interleaving_perm ps h hi).subset ha)
    exact hn p hp a hap
  rw [counterOf, (counterFrom_le_and_eq k 0 h).2 hn', Nat.zero_add, recorded_interleaving k ps h hi]

/-- **Across roll-overs a total may miss events that raced with a reset, but never exceeds what was recorded** -/
theorem totals_le_recorded_across_rollover (k : Nat) (ps : List (List NAct)) (h : List NAct) (hi : Interleaving ps h) :
    counterOf k h ≤ (ps.map (recorded k)).sum := by
  have := (counterFrom_le_and_eq k 0 h).1
  rwa [Nat.zero_add, recorded_interleaving k ps h hi] at this

theorem acquireAll_eq_replicate (n : Nat) (st : Option Nat × Nat) :
    acquireAll n st = List.replicate n (getOrInsert st).2 := by
  induction n generalizing st with
  | zero => rfl
  | succ n ih =>
    have : (getOrInsert (getOrInsert st).1).2 = (getOrInsert st).2 := by
      rcases st with ⟨_ | m, next⟩ <;> rfl
    simp only [acquireAll, ih, this, List.replicate_succ]

/-- **All threads obtain the same node**: with the get-or-insert done in one critical section, every acquisition of a fresh
resource's node returns the node the first arrival created. -/
theorem one_node (n next : Nat) (st : Option Nat × Nat) (hst : st = (none, next) ∨ ∃ m, st = (some m, next)) :
    ∀ a ∈ acquireAll n st, ∀ b ∈ acquireAll n st, a = b := by
  intro a ha b hb
  rw [acquireAll_eq_replicate] at ha hb
  rw [List.eq_of_mem_replicate ha, List.eq_of_mem_replicate hb]

/-- look-up, then an overwriting insert in a separate critical section (`OldSt.step`) does **not** have this property:
under this two-thread schedule the threads end up with different nodes -/
theorem two_nodes_witness :
    ([OldStep.lookup 0, .lookup 1, .insert 0, .readBack 0, .insert 1, .readBack 1].foldl OldSt.step {}).got = [(1, 1), (0, 0)] := by
  decide

example : Interleaving [[NAct.inc, NAct.dec], [NAct.inc]] [NAct.inc, NAct.inc, NAct.dec] :=
  .pick _ 0 NAct.inc [NAct.dec] _ rfl (.pick _ 1 NAct.inc [] _ rfl (.pick _ 0 NAct.dec [] _ rfl (.done _ (by simp))))

end Sentinel.Conc
