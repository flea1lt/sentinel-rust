import Sentinel.Validity
import Sentinel.World
import SentinelProofs.Props.C02
import SentinelProofs.Lemmas.Checks
/-!
# C12 — valid rules are enforceable without panics; invalid input never poisons

The five validity checks, stated outright (`…_valid_iff`: which rules are accepted). Then every operation between "accepted" and
"enforced" that can panic in Rust: each is an `Except Panic` function in `Sentinel/Validity.lean`, and for accepted rules (where the
code needs no check, for all rules) its `error` branch is unreachable; `no_panic_no_poison` ties this to lock poisoning.

Not proved here: floating-point arithmetic inside the checkers (casts saturate, no panic site) and the `u64` token arithmetic of
the warm-up calculator for thresholds beyond the documented range — those are exercised by the exhaustive grid.
-/
set_option autoImplicit false
namespace Sentinel

/-! ## the validity checks -/

theorem flow_valid_iff (r : VFlow) (totalMem : Nat) :
    r.check totalMem = none ↔
      (r.resource.isEmpty = false ∧ r.thr.ltZero = false ∧ ¬ (r.assoc = true ∧ r.refResource.isEmpty = true) ∧
       (r.calcs = .warmUp → r.period ≠ 0 ∧ r.cold ≠ 1) ∧
       (r.calcs = .memAdaptive → r.lwm ≠ 0 ∧ r.hwm ≠ 0 ∧ r.hmu ≠ 0 ∧ r.lmu ≠ 0 ∧ r.hmu < r.lmu ∧ r.hwm ≤ totalMem ∧ r.lwm < r.hwm)) := by
  simp only [VFlow.check, ite_some_eq_none, Bool.not_eq_true, Bool.and_eq_true, not_and, not_or, imp_and, Nat.not_le,
    Nat.not_lt, ge_iff_le, gt_iff_lt, and_true, and_assoc, ne_eq]

theorem br_valid_iff (r : VBr) :
    r.check = none ↔
      (r.resource.isEmpty = false ∧ r.ivl ≠ 0 ∧ r.retry ≠ 0 ∧ r.thr.ltZero = false ∧ (r.strat ≠ .count → r.thr.gtNat 1 = false)) := by
  simp only [VBr.check, ite_some_eq_none, Bool.not_eq_true, not_and, and_true, ne_eq]

theorem hs_valid_iff (r : VHs) :
    r.check = none ↔ (r.resource.isEmpty = false ∧ (r.qps = true → r.dur ≠ 0) ∧ ¬ (r.idx > 0 ∧ r.key.isEmpty = false)) := by
  simp only [VHs.check, ite_some_eq_none, Bool.not_eq_true, Bool.not_eq_eq_eq_not, Bool.not_true, not_and, and_true, ne_eq]

theorem iso_valid_iff (r : VIso) : r.check = none ↔ (r.resource.isEmpty = false ∧ r.thr ≠ 0) := by
  simp only [VIso.check, ite_some_eq_none, Bool.not_eq_true, and_true, ne_eq]

theorem sys_valid_iff (r : VSys) :
    r.check = none ↔
      (r.thr.ltZero = false ∧ (r.metric = .cpu → r.thr.gtNat 100 = false) ∧ (r.metric = .load → r.thr.gtNat 1 = false)) := by
  simp only [VSys.check, ite_some_eq_none, Bool.not_eq_true, not_and, not_or, and_true]
  -- the `∨ thr < 0` of the cpu and load clauses repeats the first clause
  exact and_congr_right fun h => by simp only [h, and_true]

/-- NaN is not negative: a NaN threshold passes the flow, breaker and system checks (and is enforced as "never blocks") -/
theorem nan_threshold_accepted : (Fl.nan).ltZero = false ∧ (Fl.nan).gtNat 1 = false := ⟨rfl, rfl⟩

/-! ## from accepted to enforced: the panic sites -/

/-- `CounterLeapArray::new(..).unwrap()` cannot fail for a breaker rule: the bucket count falls back to 1 unless it divides the
non-zero interval -/
theorem br_counter_constructible (r : VBr) (_h : r.check = none) : ∃ g, brCounterNew r = .ok g := by
  have : leapNewOk r.bucketCount r.ivl = true := by
    rw [leap_new_ok_iff]
    unfold VBr.bucketCount
    split
    · exact ⟨Nat.one_ne_zero, Nat.mod_one _⟩
    · next hb => exact ⟨fun h => hb (Or.inl h), Decidable.not_not.mp fun h => hb (Or.inr h)⟩
  exact ⟨_, if_pos this⟩

/-- the sample count always divides the interval -/
theorem flowSampleCount_divides (ivl : Nat) : flowSampleCount ivl ≠ 0 ∧ ivl % flowSampleCount ivl = 0 := by
  unfold flowSampleCount
  by_cases h : ivl > 500 ∧ ivl < 10000 ∧ ivl % 500 = 0
  · rw [if_pos h]
    exact ⟨by omega, Nat.mod_eq_zero_of_dvd (Nat.div_dvd_of_dvd (Nat.dvd_of_mod_eq_zero h.2.2))⟩
  · rw [if_neg h]; exact ⟨by decide, Nat.mod_one _⟩

/-- the error branches of `generate_stat_for` are dead: the private array and its reader have the same geometry, whose bucket count
divides the non-zero interval -/
theorem flowStatNew_eq (ivl : Nat) : flowStatNew ivl = .ok
    (if ivl = 0 ∨ ivl = 1000 then .default
     else if checkReuse (flowSampleCount ivl) ivl 20 10000 = 0 then .reuse (flowSampleCount ivl) ivl
     else .priv (flowSampleCount ivl) ivl) := by
  unfold flowStatNew
  split
  · rfl
  · next h0 =>
    have own : ivl ≠ 0 ∧ flowSampleCount ivl ≠ 0 ∧ ivl % flowSampleCount ivl = 0 :=
      ⟨fun h => h0 (Or.inl h), flowSampleCount_divides ivl⟩
    have hl : leapNewOk (flowSampleCount ivl) ivl = true := (leap_new_ok_iff _ _).mpr own.2
    have hc : checkReuse (flowSampleCount ivl) ivl (flowSampleCount ivl) ivl = 0 :=
      (checkReuse_iff _ _ _ _).mpr ⟨own, own, Nat.mod_self _, Nat.mod_self _⟩
    simp only [hl, hc, Bool.not_true, Bool.false_eq_true, if_false, ne_eq, not_true_eq_false]
    split <;> rfl

/-- `World.flowStatFor` writes the sample count out where `Validity` names it `flowSampleCount`: the same term, by `rfl` -/
theorem flowStatFor_eq (ivl : Nat) :
    flowStatFor ivl = if ivl = 0 ∨ ivl = 1000 then .global defaultReader
      else if checkReuse (flowSampleCount ivl) ivl 20 10000 = 0 then .global ⟨flowSampleCount ivl, ivl⟩
      else .priv ⟨flowSampleCount ivl, ivl / flowSampleCount ivl⟩
        (ringInit MetricBucket.zero ⟨flowSampleCount ivl, ivl / flowSampleCount ivl⟩) ⟨flowSampleCount ivl, ivl⟩ [] := rfl

/-- **every statistic interval gets a statistic**: `generate_stat_for` returns `Ok` for every interval, so no accepted flow rule is
skipped for want of a window -/
theorem flow_stat_total (ivl : Nat) : ∃ k, flowStatNew ivl = .ok k := ⟨_, flowStatNew_eq ivl⟩

/-- which of the three statistics `generate_stat_for` builds for an interval: the node's default metric, a reader over the global
window, or a private window -/
theorem flow_stat_matches_world (ivl : Nat) :
    (flowStatNew ivl = .ok .default ↔ (ivl = 0 ∨ ivl = 1000)) ∧
    (∀ sc iv, flowStatNew ivl = .ok (.reuse sc iv) → sc = flowSampleCount ivl ∧ iv = ivl ∧ checkReuse sc ivl 20 10000 = 0) ∧
    (∀ sc iv, flowStatNew ivl = .ok (.priv sc iv) → sc = flowSampleCount ivl ∧ iv = ivl ∧ checkReuse sc ivl 20 10000 ≠ 0) := by
  rw [flowStatNew_eq]
  by_cases h0 : ivl = 0 ∨ ivl = 1000
  · simp [h0]
  · by_cases hr : checkReuse (flowSampleCount ivl) ivl 20 10000 = 0
    · simp only [h0, hr, if_true, if_false]
      refine ⟨⟨nofun, False.elim⟩, fun sc iv e => ?_, nofun⟩
      cases e
      exact ⟨rfl, rfl, hr⟩
    · simp only [h0, hr, if_false]
      refine ⟨⟨nofun, False.elim⟩, nofun, fun sc iv e => ?_⟩
      cases e
      exact ⟨rfl, rfl, hr⟩

/-- the statistic the entry-level model (`flowStatFor`, used by C01's theorems and every world-based driver) gives a rule is the one
`generate_stat_for`'s explicit model constructs -/
theorem flow_stat_is_world_stat (ivl : Nat) :
    (match flowStatNew ivl with
     | .ok .default => flowStatFor ivl = .global defaultReader
     | .ok (.reuse sc iv) => flowStatFor ivl = .global ⟨sc, iv⟩
     | .ok (.priv sc iv) => flowStatFor ivl = .priv ⟨sc, iv / sc⟩ (ringInit MetricBucket.zero ⟨sc, iv / sc⟩) ⟨sc, iv⟩ []
     | .error _ => False) := by
  rw [flowStatNew_eq, flowStatFor_eq]
  by_cases h0 : ivl = 0 ∨ ivl = 1000
  · simp only [h0, if_true]
  · by_cases hr : checkReuse (flowSampleCount ivl) ivl 20 10000 = 0 <;> simp only [h0, hr, if_true, if_false]

/-- `ThrottlingChecker::new` cannot panic for any `u32` millisecond values -/
theorem throttling_new_total (maxq ivl : Nat) (h1 : maxq ≤ 4294967295) (h2 : ivl ≤ 4294967295) : ∃ p, throttlingNew maxq ivl = .ok p := by
  have fits (site : String) {n : Nat} (h : n ≤ 4294967295) : tryIntoI64 site (n * 1000000) = .ok (n * 1000000) :=
    if_pos (by unfold i64Max; omega)
  have a : (if ivl = 0 then 1000 else ivl) ≤ 4294967295 := by split <;> omega
  -- Unfold the constant `throttlingNew` alone, not the application `throttlingNew maxq ivl`: to compare the application
  -- with its body (what `unfold`, `delta` or `show` ask for) the kernel unfolds the `match` first and evaluates its
  -- scrutinee `Nat.ble (ivl * 1000000) i64Max`; with `ivl` a variable it multiplies by recursion on the literal, a million steps.
  conv =>
    enter [1, p, 1]
    fun
    fun
    delta throttlingNew
  rw [fits _ a, fits _ h1]
  exact ⟨_, rfl⟩

/-- the cold factor in effect is at least 2, so `cold_factor − 1 ≥ 1`: no division by zero in the token formulas -/
theorem cold_eff_ge_two (cold : Nat) : 2 ≤ coldEff cold := by
  unfold coldEff; split <;> omega

/-- `WarmUpCalculator::new`'s token arithmetic cannot panic, whatever the (saturated) casts produced — including the
`u64::MAX` that an infinite threshold yields -/
theorem warmup_tokens_total (w x : Nat) (hw : w ≤ 18446744073709551615) : ∃ t, warmUpTokens w x = .ok t ∧ t.1 ≤ t.2.1 := by
  unfold warmUpTokens subU satAddU64
  dsimp only
  have : w ≤ min (w + min (2 * x) 18446744073709551615) 18446744073709551615 := by omega
  rw [if_pos this]
  exact ⟨_, rfl, this⟩

theorem argAtIdx_eq (args : List String) (i : Int) :
    argAtIdx args i = .ok (if i < 0 then none else args[i.toNat]?) := by
  unfold argAtIdx
  split
  · rfl
  · split
    · next h => rw [List.getElem?_eq_none h]
    · next h => rw [List.getElem?_eq_getElem (by omega)]

/-- positional hotspot parameters: the indexing `args[idx as usize]` is never out of bounds, for any index (negative
indices count from the end) and any argument list -/
theorem arg_index_total (args : List String) (idx : Int) : ∃ r, argAt args idx = .ok r := ⟨_, argAtIdx_eq _ _⟩

/-- it agrees with the executable hotspot model used for C05–C07 -/
theorem argAt_eq_model (r : HsRule) (args : List String) :
    argAt args r.paramIndex = .ok (extractArgs r (some args) none) := argAtIdx_eq _ _

/-- an `Associated` flow rule is checked without panicking whether or not the referenced resource has ever been seen -/
theorem assoc_node_total {ν : Type} (nodes : List (String × ν)) (ref : String) : ∃ r, assocNode nodes ref = .ok r := ⟨_, rfl⟩

/-- the per-value in-flight counter never wraps: releasing at zero stays at zero, so the next check's `+ 1` cannot overflow
as long as fewer than 2^64 − 1 entries are in flight -/
theorem conc_counter_total (c : Nat) (h : c < 18446744073709551615) :
    ∃ c', concRelease c = .ok c' ∧ c' ≤ c ∧ ∃ n, concNext c' = .ok n := by
  refine ⟨c - 1, rfl, Nat.sub_le _ _, ?_⟩
  unfold concNext
  have : c - 1 + 1 ≤ 18446744073709551615 := by omega
  simp only [this, if_true]
  exact ⟨_, rfl⟩

/-! ## poisoning -/

theorem LockSt.withLocks_clean {α : Type} (s : LockSt) (locks : List String) (body : Except Panic α)
    (hclean : ∀ l ∈ locks, s.poisoned.contains l = false) :
    s.withLocks locks body =
      match body with
      | .ok a => (s, .ok a)
      | .error e => ({ poisoned := locks ++ s.poisoned }, .error e) := by
  unfold LockSt.withLocks
  rw [List.find?_eq_none.mpr fun l hl => Bool.eq_false_iff.mp (hclean l hl)]
  cases body <;> rfl

/-- an operation that does not panic poisons nothing -/
theorem no_panic_no_poison {α : Type} (s : LockSt) (locks : List String) (body : Except Panic α) (a : α)
    (hclean : ∀ l ∈ locks, s.poisoned.contains l = false) (hb : body = .ok a) :
    s.withLocks locks body = (s, .ok a) := by
  rw [LockSt.withLocks_clean s locks body hclean, hb]

/-- later calls keep working: after any sequence of operations whose bodies all return `ok`, started on unpoisoned locks, no lock is
poisoned -/
theorem later_calls_work {α : Type} (ops : List (List String × Except Panic α)) (h : ∀ o ∈ ops, ∃ a, o.2 = .ok a) :
    (ops.foldl (fun (s : LockSt) o => (s.withLocks o.1 o.2).1) {}).poisoned = [] := by
  suffices ∀ s : LockSt, s.poisoned = [] → (ops.foldl (fun (s : LockSt) o => (s.withLocks o.1 o.2).1) s).poisoned = [] from this {} rfl
  induction ops with
  | nil => intro s hs; exact hs
  | cons o rest ih =>
    intro s hs
    simp only [List.foldl_cons]
    apply ih (fun o' ho' => h o' (List.mem_cons_of_mem _ ho'))
    obtain ⟨a, ha⟩ := h o List.mem_cons_self
    have hclean : ∀ l ∈ o.1, s.poisoned.contains l = false := fun l _ => by simp [hs]
    rw [no_panic_no_poison s o.1 o.2 a hclean ha]
    exact hs

/-- conversely a panic under a lock poisons it: the next operation on that lock fails whatever its body -/
theorem panic_poisons {α : Type} (s : LockSt) (l : String) (e : Panic) (body : Except Panic α)
    (hclean : s.poisoned.contains l = false) :
    ∃ e', ((s.withLocks [l] (.error e : Except Panic α)).1.withLocks [l] body).2 = .error e' := by
  rw [LockSt.withLocks_clean s [l] _ (fun x hx => List.mem_singleton.mp hx ▸ hclean)]
  unfold LockSt.withLocks
  have : [l].find? (fun x => ([l] ++ s.poisoned).contains x) = some l := by simp
  simp only [this]
  exact ⟨_, rfl⟩

example : flowStatNew 1700 = .ok (.priv 1 1700) ∧ flowStatNew 1001 = .ok (.priv 1 1001) ∧ flowStatNew 2000 = .ok (.reuse 4 2000) ∧
    flowStatNew 1500 = .ok (.priv 3 1500) ∧ flowStatNew 1000 = .ok .default := ⟨by rfl, by rfl, by rfl, by rfl, by rfl⟩
example : (VFlow.check { resource := "a", thr := .nonneg (F64.ofNat 5), calcs := .warmUp, period := 10, cold := 3 } 1000) = none := by decide
example : (VFlow.check { resource := "a", thr := .nonneg (F64.ofNat 5), assoc := true, refResource := "" } 1000) = some "ref" := by decide
example : (VBr.check { resource := "a", strat := .ratio, retry := 1000, ivl := 1000, thr := .nonneg (F64.roundDiv 1 2) }) = none := by decide
example : (VSys.check { metric := .load, thr := .nonneg (F64.roundDiv 3 2) }) = some "load" := by decide

end Sentinel
