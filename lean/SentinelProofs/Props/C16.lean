import Sentinel.ConcModels
/-!
# C16 — circuit-breaker transitions are atomic under concurrency: one probe, one winner

The breaker's state lives behind one mutex; every `from_*` function is "lock, compare, set, notify, unlock" (`Cas`), and
`try_pass` reads the state under the same mutex before attempting a transition. A history is any sequence of attempts by any
number of threads (every interleaving of the threads' attempts is such a sequence). Three models, each over such histories:
transition attempts (`casRun`), whole requests and completions (`RSt.step`), and `try_pass` as an unlocked look followed by the
locked transition (`SSt.step`, with the witness against the code before D16).
-/
set_option autoImplicit false
namespace Sentinel.Conc

theorem casRun_hit (c : Cas) (rest : List Cas) :
    casRun c.frm (c :: rest) = ((casRun c.to rest).1, c :: (casRun c.to rest).2) := by
  simp [casRun]

theorem casRun_miss (s : CState) (c : Cas) (rest : List Cas) (h : s ≠ c.frm) : casRun s (c :: rest) = casRun s rest := by
  simp [casRun, h]

theorem casRun_all_miss (s : CState) (cs : List Cas) (h : ∀ c ∈ cs, s ≠ c.frm) : casRun s cs = (s, []) := by
  induction cs with
  | nil => rfl
  | cons c rest ih =>
    rw [casRun_miss s c rest (h c List.mem_cons_self)]
    exact ih (fun d hd => h d (List.mem_cons_of_mem _ hd))

/-- **The listeners observe a valid path of the state machine** -/
theorem listener_log_valid_path (s : CState) (cs : List Cas) : isPath s (casRun s cs).2 = true := by
  induction cs generalizing s with
  | nil => rfl
  | cons c rest ih =>
    by_cases h : s = c.frm
    · subst h
      rw [casRun_hit]
      simp [isPath, ih]
    · rw [casRun_miss s c rest h]; exact ih s

/-- the state after a history is where the last successful transition led (or the initial state) -/
theorem final_state_last (s : CState) (cs : List Cas) :
    (casRun s cs).1 = match (casRun s cs).2.getLast? with | some c => c.to | none => s := by
  induction cs generalizing s with
  | nil => rfl
  | cons c rest ih =>
    by_cases h : s = c.frm
    · subst h
      rw [casRun_hit, List.getLast?_cons]
      simp only [ih c.to]
      cases (casRun c.to rest).2.getLast? <;> rfl
    · rw [casRun_miss s c rest h]; exact ih s

/-- in a path, whatever follows a transition starts where that transition ended -/
theorem path_adjacent (s : CState) (log : List Cas) (h : isPath s log = true) (i : Nat) (a b : Cas)
    (ha : log[i]? = some a) (hb : log[i + 1]? = some b) : b.frm = a.to := by
  induction log generalizing s i with
  | nil => simp at ha
  | cons c rest ih =>
    simp only [isPath, Bool.and_eq_true, decide_eq_true_eq] at h
    cases i with
    | zero =>
      cases rest with
      | nil => simp at hb
      | cons d ds =>
        simp only [isPath, Bool.and_eq_true, decide_eq_true_eq] at h
        simp only [List.getElem?_cons_zero, List.getElem?_cons_succ, Option.some.injEq] at ha hb
        rw [← ha, ← hb]; exact h.2.1
    | succ j => exact ih c.to h.2 j ha hb

/-- **One probe per Half-Open phase**: two Open→Half-Open transitions (each of which admits exactly its winner as the probe) are
never adjacent. -/
theorem one_probe_per_half_open (s : CState) (cs : List Cas) (i : Nat) (a b : Cas)
    (ha : (casRun s cs).2[i]? = some a) (hb : (casRun s cs).2[i + 1]? = some b) (hto : a.to = .halfOpen) :
    b.frm = .halfOpen := by
  rw [← hto]
  exact path_adjacent s _ (listener_log_valid_path s cs) i a b ha hb

/-- **One winner** among any number of threads attempting the same transition: the first attempt in the history -/
theorem competing_attempts_one_winner (a b : CState) (hne : b ≠ a) (cs : List Cas) (hcs : cs ≠ [])
    (hall : ∀ c ∈ cs, c.frm = a ∧ c.to = b) :
    (casRun a cs).2 = [cs.head hcs] ∧ (casRun a cs).1 = b := by
  cases cs with
  | nil => exact absurd rfl hcs
  | cons c rest =>
    obtain ⟨rfl, rfl⟩ := hall c List.mem_cons_self
    -- once in `c.to`, every further attempt finds the wrong state
    have hmiss : ∀ d ∈ rest, c.to ≠ d.frm := fun d hd => by
      rw [(hall d (List.mem_cons_of_mem _ hd)).1]
      exact hne
    rw [casRun_hit, casRun_all_miss c.to rest hmiss]
    exact ⟨rfl, rfl⟩

/-- `try_pass` as a decision table: the state it read, the clock, the retry deadline and whether its Open→Half-Open attempt won.
A stand-alone restatement: `RSt.step (.request …)` decides the same (its admission flag is this table at `won := true`), but no
theorem relates the two; the tie is by reading. -/
def tryPassDecision (s : CState) (now retryAt : Nat) (won : Bool) : Bool :=
  match s with
  | .closed => true
  | .opn => decide (retryAt ≤ now) && won
  | .halfOpen => false

/-- **No pass while Open before the retry timeout, and none in Half-Open except the probe** -/
theorem pass_only_closed_or_probe (s : CState) (now retryAt : Nat) (won : Bool) (h : tryPassDecision s now retryAt won = true) :
    s = .closed ∨ (s = .opn ∧ retryAt ≤ now ∧ won = true) := by
  cases s with
  | closed => exact Or.inl rfl
  | opn =>
    simp only [tryPassDecision, Bool.and_eq_true, decide_eq_true_eq] at h
    exact Or.inr ⟨rfl, h.1, h.2⟩
  | halfOpen => simp [tryPassDecision] at h

/-! ## who may end a Half-Open phase (request-level model `RSt.step`) -/

/-- **A request that is not the probe never moves the breaker**: the third case is the probe's own roll-back (its entry was
rejected by another rule), so a transition out of Half-Open performed during a request belongs to the thread that opened this
very phase in the same request. -/
theorem request_transitions (s : RSt) (t now : Nat) (b : Bool) :
    (s.step (.request t now b)).2.1 = [] ∨ (s.step (.request t now b)).2.1 = [⟨t, .opn, .halfOpen⟩] ∨
    (s.step (.request t now b)).2.1 = [⟨t, .opn, .halfOpen⟩, ⟨t, .halfOpen, .opn⟩] := by
  unfold RSt.step
  cases s.state with
  | closed => exact .inl rfl
  | halfOpen => exact .inl rfl
  | opn =>
    by_cases h1 : s.retryAt ≤ now
    · cases b <;> simp [h1]
    · simp [h1]

theorem half_open_request_refused (s : RSt) (h : s.state = .halfOpen) (t now : Nat) (b : Bool) :
    s.step (.request t now b) = (s, [], some false) := by
  unfold RSt.step; rw [h]

/-- **One probe per Half-Open phase, over histories** of requests by any threads (no completion in between) -/
theorem phase_admits_no_second_probe (s : RSt) (h : s.state = .halfOpen) (hist : List RStep)
    (hreq : ∀ st ∈ hist, ∃ t now b, st = .request t now b) :
    (∀ o ∈ s.run hist, o.2.2 = some false ∧ o.2.1 = []) ∧ (s.after hist).state = .halfOpen := by
  induction hist generalizing s with
  | nil => exact ⟨fun o ho => (by cases ho), h⟩
  | cons st rest ih =>
    obtain ⟨t, now, b, rfl⟩ := hreq _ List.mem_cons_self
    have hs := half_open_request_refused s h t now b
    have ih' := ih s h (fun x hx => hreq x (List.mem_cons_of_mem _ hx))
    simp only [RSt.run, RSt.after, hs]
    refine ⟨?_, ih'.2⟩
    intro o ho
    rcases List.mem_cons.mp ho with rfl | ho
    · exact ⟨rfl, rfl⟩
    · exact ih'.1 o ho

theorem RSt.step_path (s : RSt) (st : RStep) (l : List Cas) (h : isPath (s.step st).1.state l = true) :
    isPath s.state ((s.step st).2.1 ++ l) = true := by
  -- in each branch the listed transitions start at `s.state`, chain, and end at the new state, from where `l` goes on
  cases st with
  | request t now b =>
    cases hs : s.state with
    | closed => simpa [RSt.step, hs] using h
    | halfOpen => simpa [RSt.step, hs] using h
    | opn =>
      by_cases hd : s.retryAt ≤ now
      · cases b
        · -- the probe: Open → Half-Open
          simpa [RSt.step, hs, hd, isPath] using h
        · -- the probe rolled back: Open → Half-Open → Open
          simpa [RSt.step, hs, hd, isPath] using h
      · simpa [RSt.step, hs, hd] using h
  | complete t now hit trip =>
    cases hs : s.state with
    | opn => simpa [RSt.step, hs] using h
    | closed =>
      cases trip
      · simpa [RSt.step, hs] using h
      · simpa [RSt.step, hs, isPath] using h
    | halfOpen =>
      cases hit
      · simpa [RSt.step, hs, isPath] using h
      · simpa [RSt.step, hs, isPath] using h

/-- so the listeners see a valid path, also at the level of requests -/
theorem run_log_is_path (s : RSt) (hist : List RStep) :
    isPath s.state ((s.run hist).flatMap (fun o => o.2.1)) = true := by
  induction hist generalizing s with
  | nil => rfl
  | cons st rest ih => exact s.step_path st _ (ih (s.step st).1)

/-! ## no probe before the retry deadline, also when the check and the transition are separate steps (D16) -/

/-- **With the deadline re-checked under the mutex, no interleaving makes a request the probe before the retry deadline in
force at that moment**, however many probes failed and re-opened the breaker in between. -/
theorem probe_not_before_deadline (s : SSt) (hist : List SStep) :
    ∀ p ∈ s.run true hist, p.2 ≤ p.1 := by
  induction hist generalizing s with
  | nil => intro p hp; cases hp
  | cons st rest ih =>
    intro p hp
    rcases List.mem_append.mp hp with h | h
    · -- only a transition under the mutex emits anything, and it has just looked at the deadline
      cases st with
      | act t now =>
        -- `h` holds `SSt.step` applied to a constructor: reduce it
        dsimp only at h
        split at h
        · split at h
          · next hc =>
            obtain rfl := List.mem_singleton.mp h
            simpa using hc.2
          · cases h
        · cases h
      | _ =>
        dsimp only at h
        split at h <;> cases h
    · exact ih _ p h

/-- **The code before the fix did allow it** (witness): thread 1 looks at the breaker (Open, deadline 5 reached at time 7),
thread 0 becomes the probe and fails at time 8 (new deadline 1008), then thread 1 performs its transition at time 9 - a probe
1000 ms before the deadline. The same history is harmless once the transition re-checks the deadline. -/
theorem stale_check_witness :
    (({ retryAt := 5 } : SSt).run false [.check 1 7, .check 0 7, .act 0 7, .fail 0 8, .act 1 9]) = [(7, 5), (9, 1008)] ∧
    (({ retryAt := 5 } : SSt).run true [.check 1 7, .check 0 7, .act 0 7, .fail 0 8, .act 1 9]) = [(7, 5)] := by decide

example : (casRun .opn [⟨1, .opn, .halfOpen⟩, ⟨2, .opn, .halfOpen⟩, ⟨1, .halfOpen, .closed⟩]).2 =
    [⟨1, .opn, .halfOpen⟩, ⟨1, .halfOpen, .closed⟩] := by decide

/-- two threads race for the probe after the retry time; the loser is refused and moves nothing; the winner's failed probe re-opens -/
example : (({ state := .opn, retryAt := 5 } : RSt).run [.request 1 7 false, .request 2 7 false, .complete 1 9 true false]).map (fun o => (o.2.1, o.2.2)) =
    [([⟨1, .opn, .halfOpen⟩], some true), ([], some false), ([⟨1, .halfOpen, .opn⟩], none)] := by decide

end Sentinel.Conc
