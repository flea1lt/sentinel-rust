import Sentinel.World
import SentinelProofs.Props.C02
import SentinelProofs.Lemmas.Node
import SentinelProofs.Props.C12
/-!
# C01 — reject-type flow control admits a request iff it fits every rule's window

`World.build` runs `flowSlot`; on direct/reject controllers that is `flowCheck` (`flowSlot_is_flowCheck`, last section), followed
by `Node.recordPass` / `FlowCtrl.recordPass` (on admission) or `Node.recordBlock`. `FlowSys` below is that composition for
one resource; batch counts may be 0, completions interleave freely.

Invariant (`SysOk`): every ring of the system (the node's, each private one) is in the ring invariant
w.r.t. its own history, and the pass amounts of each history are the admitted tokens; the rules' thresholds, windows and
guards stay those of the initial controllers.
-/
set_option autoImplicit false
namespace Sentinel

/-! ## Spec -/

/-- tokens admitted (history of `(time, tokens)`, newest first) whose bucket of length `L` starts in `[lo, hi]` -/
def admittedSum (L : Nat) (adm : List (Nat × Nat)) (lo hi : Nat) : Nat :=
  ((adm.filter (fun a => lo ≤ a.1 - a.1 % L && a.1 - a.1 % L ≤ hi)).map (·.2)).sum

/-- bucket length and width of a controller's statistic window (`.nop`: an arbitrary value; `CtrlOk` excludes that case) -/
def FlowCtrl.geo (c : FlowCtrl) : Nat × Nat :=
  match c.stat with
  | .global rd => (500, rd.iv)
  | .priv g _ rd _ => (g.L, rd.iv)
  | .nop => (1, 1)

/-- the request of `n` tokens at `now` fits a rule with threshold `thr` whose window is `W` wide in buckets of `L` -/
def FitsW (adm : List (Nat × Nat)) (thr : F64) (L W now n : Nat) : Prop :=
  F64.ltNat thr (admittedSum L adm ((now - now % L) - W + L) (now - now % L) + n) = false

def Fits (adm : List (Nat × Nat)) (c : FlowCtrl) (now n : Nat) : Prop :=
  FitsW adm c.thr c.geo.1 c.geo.2 now n

/-- an admitted history in which every admission fitted the rule when it was made (newest first, times non-decreasing) -/
def AdmOk (thr : F64) (L W : Nat) : List (Nat × Nat) → Prop
  | [] => True
  | a :: older => FitsW older thr L W a.1 a.2 ∧ (∀ o ∈ older, o.1 ≤ a.1) ∧ AdmOk thr L W older

theorem admittedSum_cons (L : Nat) (a : Nat × Nat) (adm : List (Nat × Nat)) (lo hi : Nat) :
    admittedSum L (a :: adm) lo hi =
      (if lo ≤ a.1 - a.1 % L ∧ a.1 - a.1 % L ≤ hi then a.2 else 0) + admittedSum L adm lo hi := by
  simp only [admittedSum, sum_filter_cons, Bool.and_eq_true, decide_eq_true_eq]

theorem ltNat_mono (x : F64) (a b : Nat) (hab : a ≤ b) (h : F64.ltNat x b = false) : F64.ltNat x a = false := by
  unfold F64.ltNat at *
  simp only [decide_eq_false_iff_not, Nat.not_lt] at *
  exact Nat.le_trans (Nat.mul_le_mul_right _ hab) h

/-! ## the system -/

structure FlowSys where
  node : Node
  ctrls : List FlowCtrl

/-- the flow-relevant part of `World.build` -/
def FlowSys.enter (s : FlowSys) (now batch : Nat) : FlowSys × Bool :=
  match flowCheck s.ctrls s.node now batch with
  | some _ => ({ s with node := s.node.recordBlock now batch }, false)
  | none => ({ node := s.node.recordPass now batch, ctrls := s.ctrls.map (fun c => c.recordPass now batch) }, true)

/-- the flow-relevant part of `World.exit` -/
def FlowSys.complete (s : FlowSys) (now batch rt : Nat) : FlowSys :=
  { s with node := s.node.recordComplete now batch rt }

inductive FOp where
  | enter (t n : Nat)
  | complete (t n rt : Nat)

def FOp.time : FOp → Nat
  | .enter t _ => t
  | .complete t _ _ => t

/-- run a list of operations (newest first); returns the state and the admitted history (newest first) -/
def FlowSys.run (s0 : FlowSys) : List FOp → FlowSys × List (Nat × Nat)
  | [] => (s0, [])
  | .enter t n :: older =>
    let (s, adm) := FlowSys.run s0 older
    let (s', ok) := s.enter t n
    (s', if ok then (t, n) :: adm else adm)
  | .complete t n rt :: older =>
    let (s, adm) := FlowSys.run s0 older
    (s.complete t n rt, adm)

/-- what ties a ring's ghost history to the Spec's admitted history: the same `pass` total in every window -/
def PassAgree (hist : List TEv) (adm : List (Nat × Nat)) : Prop :=
  ∀ L lo hi, windowSum L hist lo hi .pass = admittedSum L adm lo hi

theorem passAgree_nil : PassAgree [] [] := fun _ _ _ => rfl

theorem passAgree_other {hist : List TEv} {adm : List (Nat × Nat)} {t : Nat} {e : Ev}
    (h : PassAgree hist adm) (he : e.amount .pass = 0) : PassAgree ((t, e) :: hist) adm :=
  fun L lo hi => (windowSum_cons_zero he).trans (h L lo hi)

theorem passAgree_pass {hist : List TEv} {adm : List (Nat × Nat)} {t n : Nat}
    (h : PassAgree hist adm) : PassAgree ((t, .add .pass n) :: hist) ((t, n) :: adm) := by
  intro L lo hi
  rw [windowSum_cons, admittedSum_cons, h L lo hi]
  simp [Ev.amount]

/-! ## the invariant -/

/-- what a controller reading the node's global window needs (`curCount_eq`): the ring refines its history, and that history
agrees with the admitted one -/
structure NodeOk (n : Node) (adm : List (Nat × Nat)) (tl : Nat) : Prop where
  inv : BInv globalGeo n.ring n.hist tl
  agree : PassAgree n.hist adm

/-- the same for a controller's own statistic, with the bounds on its window that `sliding_sum_eq` asks for -/
def CtrlOk (c : FlowCtrl) (adm : List (Nat × Nat)) (tl : Nat) : Prop :=
  match c.stat with
  | .global rd => 500 ≤ rd.iv ∧ rd.iv ≤ 10000
  | .priv g ring rd hist => 0 < g.n ∧ 0 < g.L ∧ g.L ≤ rd.iv ∧ rd.iv ≤ g.interval ∧ BInv g ring hist tl ∧ PassAgree hist adm
  | .nop => False      -- a rule that needs statistics (every reject rule) never gets the no-op statistic

/-- guard: no `u64` wrap in `end - interval + bucket_len`, stamp 0 means never used -/
def CtrlGuard (c : FlowCtrl) (t : Nat) : Prop :=
  match c.stat with
  | .global rd => rd.iv ≤ globalGeo.start t
  | .priv g _ rd _ => rd.iv ≤ g.start t ∧ 0 < g.start t
  | .nop => True

/-- whatever `stat_interval_ms` a rule carries, the statistics generated for it are well formed -/
theorem flowStatFor_ok (id : String) (thr : F64) (ivl : Nat) (tl : Nat) :
    CtrlOk { id := id, thr := thr, ivl := ivl, stat := flowStatFor ivl } [] tl := by
  unfold CtrlOk
  dsimp only
  rw [flowStatFor_eq]
  by_cases h0 : ivl = 0 ∨ ivl = 1000
  · rw [if_pos h0]
    exact ⟨by decide, by decide⟩
  · rw [if_neg h0]
    by_cases hr : checkReuse (flowSampleCount ivl) ivl 20 10000 = 0
    · rw [if_pos hr]
      have ht := checkReuse_tiles _ _ _ _ hr
      exact ⟨ht.2.1, ht.2.2⟩
    · rw [if_neg hr]
      obtain ⟨hsc, hdiv⟩ := flowSampleCount_divides ivl
      have hdvd := Nat.dvd_of_mod_eq_zero hdiv
      have hiv : 0 < ivl := Nat.pos_of_ne_zero (fun h => h0 (Or.inl h))
      have hscp := Nat.pos_of_ne_zero hsc
      exact ⟨hscp, Nat.div_pos (Nat.le_of_dvd hiv hdvd) hscp, Nat.div_le_self _ _,
        Nat.le_of_eq (Nat.mul_div_cancel' hdvd).symm, binv_init _ tl, passAgree_nil⟩

theorem ctrlOk_mono (c : FlowCtrl) (adm : List (Nat × Nat)) (tl t : Nat) (h : CtrlOk c adm tl) (ht : tl ≤ t) :
    CtrlOk c adm t := by
  unfold CtrlOk at *
  generalize c.stat = stat at h ⊢
  cases stat with
  | global rd => exact h
  | priv g ring rd hist =>
    obtain ⟨hgn, hgL, hWL, hWn, hinv, hagree⟩ := h
    exact ⟨hgn, hgL, hWL, hWn, hinv.mono ht, hagree⟩
  | nop => exact h

/-- what recording an admission does to one controller: `CtrlOk` moves on to the longer admitted history, and the rule's
parameters and guards stay (only a private ring and its history change) -/
theorem ctrlOk_recordPass (c : FlowCtrl) (adm : List (Nat × Nat)) (tl t b : Nat)
    (h : CtrlOk c adm tl) (ht : tl ≤ t) (hg : CtrlGuard c t) :
    CtrlOk (c.recordPass t b) ((t, b) :: adm) t ∧ (c.recordPass t b).thr = c.thr ∧ (c.recordPass t b).geo = c.geo ∧
      ∀ t', CtrlGuard c t' → CtrlGuard (c.recordPass t b) t' := by
  unfold CtrlOk at h
  unfold CtrlGuard at hg
  -- in each case: what `recordPass` returns, then the four claims of that
  cases hs : c.stat with
  | global rd =>
    have hrec : c.recordPass t b = c := by
      unfold FlowCtrl.recordPass
      rw [hs]
    rw [hs] at h
    rw [hrec]
    unfold CtrlOk
    rw [hs]
    exact ⟨h, rfl, rfl, fun _ hg' => hg'⟩
  | priv g ring rd hist =>
    rw [hs] at h hg
    obtain ⟨hgn, hgL, hWL, hWn, hinv, hagree⟩ := h
    obtain ⟨r', hw, hinv'⟩ := ring_inv_record g hgn hgL ring hist tl t (.add .pass b) hinv ht hg.2
    have hrec : c.recordPass t b = { c with stat := .priv g r' rd ((t, .add .pass b) :: hist) } := by
      unfold FlowCtrl.recordPass
      rw [hs]
      dsimp only
      rw [hw]
    rw [hrec]
    unfold CtrlOk FlowCtrl.geo CtrlGuard
    rw [hs]
    exact ⟨⟨hgn, hgL, hWL, hWn, hinv', passAgree_pass hagree⟩, rfl, rfl, fun _ hg' => hg'⟩
  | nop =>
    rw [hs] at h
    exact h.elim

theorem curCount_eq (c : FlowCtrl) (node : Node) (adm : List (Nat × Nat)) (tl now : Nat)
    (hn : NodeOk node adm tl) (hc : CtrlOk c adm tl) (hnow : tl ≤ now) (hg : CtrlGuard c now) :
    c.curCount node now =
      admittedSum c.geo.1 adm ((now - now % c.geo.1) - c.geo.2 + c.geo.1) (now - now % c.geo.1) := by
  unfold FlowCtrl.curCount FlowCtrl.geo
  unfold CtrlOk at hc
  unfold CtrlGuard at hg
  generalize c.stat = stat at hc hg ⊢
  cases stat with
  | global rd =>
    have hiv : rd.iv ≤ globalGeo.interval := hc.2
    exact (sliding_sum_eq globalGeo globalGeo_n globalGeo_L node.ring node.hist tl rd now .pass hn.inv hnow hc.1 hiv hg).trans
      (hn.agree _ _ _)
  | priv g ring rd hist =>
    obtain ⟨hgn, hgL, hWL, hWn, hinv, hagree⟩ := hc
    exact (sliding_sum_eq g hgn hgL ring hist tl rd now .pass hinv hnow hWL hWn hg.1).trans (hagree _ _ _)
  | nop => exact hc.elim

theorem blocks_iff (c : FlowCtrl) (node : Node) (adm : List (Nat × Nat)) (tl now n : Nat)
    (hn : NodeOk node adm tl) (hc : CtrlOk c adm tl) (hnow : tl ≤ now) (hg : CtrlGuard c now) :
    c.blocks node now n = false ↔ Fits adm c now n := by
  unfold FlowCtrl.blocks Fits FitsW
  rw [curCount_eq c node adm tl now hn hc hnow hg]

theorem flowCheck_eq_map (cs : List FlowCtrl) (node : Node) (now n : Nat) :
    flowCheck cs node now n = (cs.find? (fun c => c.blocks node now n)).map (fun c => (c.id, c.curCount node now)) := by
  unfold flowCheck
  cases cs.find? (fun c => c.blocks node now n) <;> rfl

theorem flowCheck_eq_none (cs : List FlowCtrl) (node : Node) (now n : Nat) :
    flowCheck cs node now n = none ↔ ∀ c ∈ cs, c.blocks node now n = false := by
  rw [flowCheck_eq_map, Option.map_eq_none_iff, List.find?_eq_none]
  simp only [Bool.not_eq_true]

theorem FlowSys.enter_snd (s : FlowSys) (now n : Nat) :
    (s.enter now n).2 = true ↔ flowCheck s.ctrls s.node now n = none := by
  unfold FlowSys.enter
  cases flowCheck s.ctrls s.node now n <;> simp

/-- **Admission rule.** The flow slot admits iff the request fits every rule -/
theorem flow_admit_iff (s : FlowSys) (adm : List (Nat × Nat)) (tl now n : Nat)
    (hn : NodeOk s.node adm tl) (hc : ∀ c ∈ s.ctrls, CtrlOk c adm tl) (hnow : tl ≤ now)
    (hg : ∀ c ∈ s.ctrls, CtrlGuard c now) :
    flowCheck s.ctrls s.node now n = none ↔ ∀ c ∈ s.ctrls, Fits adm c now n := by
  rw [flowCheck_eq_none]
  exact forall₂_congr (fun c hcm => blocks_iff c s.node adm tl now n hn (hc c hcm) hnow (hg c hcm))

/-- a request that fits every rule is never rejected by flow control -/
theorem flow_no_false_reject (s : FlowSys) (adm : List (Nat × Nat)) (tl now n : Nat)
    (hn : NodeOk s.node adm tl) (hc : ∀ c ∈ s.ctrls, CtrlOk c adm tl) (hnow : tl ≤ now)
    (hg : ∀ c ∈ s.ctrls, CtrlGuard c now) (hfit : ∀ c ∈ s.ctrls, Fits adm c now n) :
    (s.enter now n).2 = true :=
  (s.enter_snd now n).mpr ((flow_admit_iff s adm tl now n hn hc hnow hg).mpr hfit)

/-- a flow rejection names a rule that the request does not fit, with that rule's window count as snapshot -/
theorem flow_block_names_rule (s : FlowSys) (adm : List (Nat × Nat)) (tl now n : Nat) (id : String) (snap : Nat)
    (hn : NodeOk s.node adm tl) (hc : ∀ c ∈ s.ctrls, CtrlOk c adm tl) (hnow : tl ≤ now)
    (hg : ∀ c ∈ s.ctrls, CtrlGuard c now) (hb : flowCheck s.ctrls s.node now n = some (id, snap)) :
    ∃ c ∈ s.ctrls, c.id = id ∧ ¬ Fits adm c now n ∧
      snap = admittedSum c.geo.1 adm ((now - now % c.geo.1) - c.geo.2 + c.geo.1) (now - now % c.geo.1) := by
  rw [flowCheck_eq_map] at hb
  obtain ⟨c, hm, hbl, he⟩ := find?_map_eq_some hb
  obtain ⟨hid, hsnap⟩ := Prod.mk.inj he
  refine ⟨c, hm, hid, fun hfit => ?_, ?_⟩
  · rw [(blocks_iff c s.node adm tl now n hn (hc c hm) hnow (hg c hm)).mpr hfit] at hbl; cases hbl
  · rw [← hsnap]; exact curCount_eq c s.node adm tl now hn (hc c hm) hnow (hg c hm)

/-- what is asked of an operation history (newest first): times do not decrease, and every time meets the rings' guards
(stamp 0 unused, `CtrlGuard`) -/
def OpsOk (s0 : FlowSys) : List FOp → Prop
  | [] => True
  | op :: older => (∀ o ∈ older, o.time ≤ op.time) ∧ 0 < globalGeo.start op.time ∧
      (∀ c ∈ s0.ctrls, CtrlGuard c op.time) ∧ OpsOk s0 older

/-- the invariant every run from `s0` keeps (`run_sysOk`). `node`, `ctrls`: what `flow_admit_iff` asks for. `rules`, `guards`: a run
changes no rule, so what `OpsOk` asks of the initial controllers holds of the current ones. `times`, `fitted`: the admitted
history is one of `AdmOk` for every rule (`run_admOk`). -/
structure SysOk (s0 s : FlowSys) (adm : List (Nat × Nat)) (tl : Nat) : Prop where
  node : NodeOk s.node adm tl
  ctrls : ∀ c ∈ s.ctrls, CtrlOk c adm tl
  rules : s.ctrls.map (fun c => (c.thr, c.geo)) = s0.ctrls.map (fun c => (c.thr, c.geo))
  guards : ∀ t, (∀ c ∈ s0.ctrls, CtrlGuard c t) → ∀ c ∈ s.ctrls, CtrlGuard c t
  times : ∀ a ∈ adm, a.1 ≤ tl
  fitted : ∀ c ∈ s0.ctrls, AdmOk c.thr c.geo.1 c.geo.2 adm

theorem SysOk.mono {s0 s : FlowSys} {adm : List (Nat × Nat)} {tl t : Nat} (h : SysOk s0 s adm tl) (ht : tl ≤ t) :
    SysOk s0 s adm t :=
  { h with
    node := ⟨h.node.inv.mono ht, h.node.agree⟩
    ctrls := fun c hc => ctrlOk_mono c adm tl t (h.ctrls c hc) ht
    times := fun a ha => Nat.le_trans (h.times a ha) ht }

section Sealed
-- sealed for the step lemmas and the run: `isDefEq` would otherwise unfold a recording down to `ringWrite` each time a goal
-- mentions it under a projection, as in `(s.enter t n).1.node`
attribute [local irreducible] Node.recordPass Node.recordBlock Node.recordComplete FlowCtrl.recordPass

theorem SysOk.enter {s0 s : FlowSys} {adm : List (Nat × Nat)} {t : Nat} (h : SysOk s0 s adm t) (n : Nat)
    (hpos : 0 < globalGeo.start t) (hg : ∀ c ∈ s0.ctrls, CtrlGuard c t) :
    SysOk s0 (s.enter t n).1 (if (s.enter t n).2 then (t, n) :: adm else adm) t := by
  unfold FlowSys.enter
  cases hf : flowCheck s.ctrls s.node t n with
  | some p =>
    obtain ⟨hi, he⟩ := s.node.recordBlock_spec t t n h.node.inv (Nat.le_refl _) hpos
    exact { h with node := ⟨hi, he ▸ passAgree_other h.node.agree rfl⟩ }
  | none =>
    -- `Fits` depends on a controller through `(thr, geo)` only: carried along `h.rules` to the initial controllers
    have hfit := (List.forall_mem_map (f := fun c : FlowCtrl => (c.thr, c.geo)) (P := fun k => FitsW adm k.1 k.2.1 k.2.2 t n)).mpr
      ((flow_admit_iff s adm t t n h.node h.ctrls (Nat.le_refl _) (h.guards t hg)).mp hf)
    rw [h.rules, List.forall_mem_map] at hfit
    have hrec := fun c hc => ctrlOk_recordPass c adm t t n (h.ctrls c hc) (Nat.le_refl _) (h.guards t hg c hc)
    obtain ⟨hi, he⟩ := s.node.recordPass_spec t t n h.node.inv (Nat.le_refl _) hpos
    refine ⟨⟨hi, he ▸ passAgree_pass (passAgree_other h.node.agree rfl)⟩, fun c hc => ?_, ?_, fun t' hg' c hc => ?_,
      List.forall_mem_cons.mpr ⟨Nat.le_refl _, h.times⟩, fun c hc => ⟨hfit c hc, h.times, h.fitted c hc⟩⟩
    · obtain ⟨c0, hc0, rfl⟩ := List.mem_map.mp hc
      exact (hrec c0 hc0).1
    · rw [← h.rules, List.map_map]
      refine List.map_congr_left (fun c hc => ?_)
      rw [Function.comp_apply, (hrec c hc).2.1, (hrec c hc).2.2.1]
    · obtain ⟨c0, hc0, rfl⟩ := List.mem_map.mp hc
      exact (hrec c0 hc0).2.2.2 t' (h.guards t' hg' c0 hc0)

theorem SysOk.complete {s0 s : FlowSys} {adm : List (Nat × Nat)} {t : Nat} (h : SysOk s0 s adm t) (n rt : Nat)
    (hpos : 0 < globalGeo.start t) : SysOk s0 (s.complete t n rt) adm t := by
  obtain ⟨hi, he⟩ := s.node.recordComplete_spec t t n rt h.node.inv (Nat.le_refl _) hpos
  exact { h with node := ⟨hi, he ▸ passAgree_other (passAgree_other h.node.agree rfl) rfl⟩ }

theorem run_sysOk (s0 : FlowSys) (ops : List FOp) (h0 : SysOk s0 s0 [] 0) (hops : OpsOk s0 ops)
    (t : Nat) (ht : ∀ o ∈ ops, o.time ≤ t) : SysOk s0 (s0.run ops).1 (s0.run ops).2 t := by
  induction ops generalizing t with
  | nil => exact h0.mono (Nat.zero_le _)
  | cons op older ih =>
    obtain ⟨hmono, hpos, hguard, holder⟩ := hops
    have hok := ih holder op.time hmono
    refine SysOk.mono ?_ (ht op List.mem_cons_self)
    cases op with
    | enter t' n => exact hok.enter n hpos hguard
    | complete t' n rt => exact hok.complete n rt hpos

end Sealed

/-- a fresh resource: new node, controllers generated for any list of rules `(id, threshold, stat_interval_ms)` -/
def FlowSys.fresh (rules : List (String × F64 × Nat)) : FlowSys :=
  { node := {}, ctrls := rules.map (fun r => { id := r.1, thr := r.2.1, ivl := r.2.2, stat := flowStatFor r.2.2 }) }

theorem fresh_sysOk (rules : List (String × F64 × Nat)) (t0 : Nat) : SysOk (FlowSys.fresh rules) (FlowSys.fresh rules) [] t0 := by
  refine ⟨⟨binv_init _ t0, passAgree_nil⟩, fun c hc => ?_, rfl, fun _ h => h, fun _ h => (nomatch h), fun _ _ => trivial⟩
  obtain ⟨r, _, rfl⟩ := List.mem_map.mp hc
  exact flowStatFor_ok _ _ _ _

/-- **C01, end to end.** After any admissible operation history on a fresh resource, the next request is admitted
exactly when it fits every rule's window of the admitted history that run produced. -/
theorem flow_admit_iff_run (rules : List (String × F64 × Nat)) (ops : List FOp) (t0 now n : Nat)
    (hops : OpsOk (FlowSys.fresh rules) ops) (hstart : ∀ o ∈ ops, t0 ≤ o.time)
    (hnow : ∀ o ∈ ops, o.time ≤ now) (ht0 : t0 ≤ now)
    (hg : ∀ c ∈ (FlowSys.fresh rules).ctrls, CtrlGuard c now) :
    (((FlowSys.fresh rules).run ops).1.enter now n).2 = true ↔
      ∀ c ∈ ((FlowSys.fresh rules).run ops).1.ctrls, Fits ((FlowSys.fresh rules).run ops).2 c now n := by
  have hok := run_sysOk _ ops (fresh_sysOk rules 0) hops now hnow
  rw [FlowSys.enter_snd]
  exact flow_admit_iff _ _ now now n hok.node hok.ctrls (Nat.le_refl _) (hok.guards now hg)

/-- **Window cap.** In any admitted history in which every admission fitted when it was made (`AdmOk`), the tokens admitted
in any window `[hi - W + L, hi]` of bucket starts never exceed the threshold. -/
theorem flow_window_cap (thr : F64) (L W : Nat) (adm : List (Nat × Nat)) (h : AdmOk thr L W adm) (hi : Nat) :
    F64.ltNat thr (admittedSum L adm (hi - W + L) hi) = false := by
  induction adm with
  | nil => simp [admittedSum, F64.ltNat]
  | cons a older ih =>
    obtain ⟨hfit, hmono, hold⟩ := h
    rw [admittedSum_cons]
    by_cases hin : hi - W + L ≤ a.1 - a.1 % L ∧ a.1 - a.1 % L ≤ hi
    · -- `a` is the newest admission of the window: everything older lies in buckets up to `a`'s, so what the window holds of
      -- it is inside the window that ended at `a`'s bucket, and into that one `a` fitted
      rw [if_pos hin]
      have hsub : admittedSum L older (hi - W + L) hi ≤
          admittedSum L older ((a.1 - a.1 % L) - W + L) (a.1 - a.1 % L) := by
        refine sum_filter_mono older _ _ _ (fun o ho hp => ?_)
        have hle : o.1 - o.1 % L ≤ a.1 - a.1 % L := Geo.start_mono ⟨1, L⟩ (hmono o ho)
        -- only the order of the two bucket starts matters
        generalize a.1 - a.1 % L = b at *
        generalize o.1 - o.1 % L = s at *
        simp only [Bool.and_eq_true, decide_eq_true_eq] at hp ⊢
        omega
      exact ltNat_mono thr _ _ (by omega) hfit
    · rw [if_neg hin, Nat.zero_add]; exact ih hold

/-- the admitted history produced by any run satisfies `AdmOk` for every rule: the premise of `flow_window_cap` -/
theorem run_admOk (rules : List (String × F64 × Nat)) (ops : List FOp) (t0 : Nat)
    (hops : OpsOk (FlowSys.fresh rules) ops) (hstart : ∀ o ∈ ops, t0 ≤ o.time) :
    (((FlowSys.fresh rules).run ops).1.ctrls.map (fun c => (c.thr, c.geo)) = (FlowSys.fresh rules).ctrls.map (fun c => (c.thr, c.geo))) ∧
    ∀ c ∈ (FlowSys.fresh rules).ctrls, AdmOk c.thr c.geo.1 c.geo.2 ((FlowSys.fresh rules).run ops).2 := by
  -- `rules` and `fitted` of the invariant do not depend on its time: any upper bound of the times will do, here their sum
  have hok := run_sysOk _ ops (fresh_sysOk rules 0) hops (ops.map FOp.time).sum
    (fun o ho => le_sum_of_mem _ _ (List.mem_map_of_mem ho))
  exact ⟨hok.rules, hok.fitted⟩

/-! ## the tie to what the slot chain runs -/

/-- a controller with the direct calculator (no warm-up) and the reject checker: the kind `flowCheck` speaks for -/
def FlowCtrl.isDirectReject (c : FlowCtrl) : Prop :=
  (match c.calcr with | .direct => True | _ => False) ∧ (match c.checker with | .reject => True | _ => False)

theorem FlowCtrl.isDirectReject_iff (c : FlowCtrl) : c.isDirectReject ↔ c.calcr = .direct ∧ c.checker = .reject := by
  unfold FlowCtrl.isDirectReject
  cases c.calcr with
  | direct =>
    cases c.checker with
    | reject => exact ⟨fun _ => ⟨rfl, rfl⟩, fun _ => ⟨trivial, trivial⟩⟩
    | throttling l => exact ⟨fun h => h.2.elim, fun h => nomatch h.2⟩
  | warmUp w => exact ⟨fun h => h.1.elim, fun h => nomatch h.1⟩

/-- `Controller::perform_checking` of a direct/reject controller in one equation (`step_warmUp_reject` of C08 is its warm-up twin) -/
theorem step_directReject (c : FlowCtrl) (node : Node) (nowNs batch : Nat) (hc : c.calcr = .direct) (hk : c.checker = .reject) :
    c.step node nowNs batch =
      (c, if c.blocks node (nowNs / 1000000) batch then .blocked c.id (toString (c.curCount node (nowNs / 1000000))) else .pass) := by
  unfold FlowCtrl.step FlowCtrl.allowed FlowCtrl.blocks
  simp only [hc, hk]
  exact (apply_ite (Prod.mk c) _ _ _).symm

/-- **The tie to what the chain runs.** `World.build` runs `flowSlot`; for direct/reject controllers it changes no controller,
sleeps nothing, and blocks exactly as `flowCheck` says (same rule, same snapshot): the theorems above, stated on `flowCheck`, speak
of the modelled slot -/
theorem flowSlot_is_flowCheck (ctrls : List FlowCtrl) (node : Node) (nowNs batch : Nat)
    (h : ∀ c ∈ ctrls, c.isDirectReject) :
    flowSlot ctrls node nowNs batch =
      (ctrls, nowNs, (flowCheck ctrls node (nowNs / 1000000) batch).map (fun p => (p.1, toString p.2))) := by
  induction ctrls with
  | nil => rfl
  | cons c rest ih =>
    obtain ⟨hc, hk⟩ := (c.isDirectReject_iff).mp (h c List.mem_cons_self)
    have hr := ih (fun x hx => h x (List.mem_cons_of_mem _ hx))
    unfold flowSlot
    rw [step_directReject c node nowNs batch hc hk, flowCheck_eq_map, List.find?_cons]
    -- the head blocks: both sides stop at it; it passes: both go on with the rest
    cases hb : c.blocks node (nowNs / 1000000) batch with
    | true => rfl
    | false =>
      rw [hr, flowCheck_eq_map]
      rfl

example : OpsOk (FlowSys.fresh [("a", F64.ofNat 3, 0), ("b", F64.roundDiv 5 2, 1500)])
    [.enter 1700000000700 1, .complete 1700000000600 1 100, .enter 1700000000100 2] := by
  -- the two controllers read the global window through the default reader, and a private 3 × 500 ms window
  have hguard : ∀ t, (1500 ≤ t - t % 500 ∧ 0 < t - t % 500) →
      ∀ c ∈ (FlowSys.fresh [("a", F64.ofNat 3, 0), ("b", F64.roundDiv 5 2, 1500)]).ctrls, CtrlGuard c t := by
    intro t ht c hc
    simp only [FlowSys.fresh, List.map_cons, List.map_nil, List.mem_cons, List.not_mem_nil, or_false] at hc
    rcases hc with rfl | rfl
    · show 1000 ≤ t - t % 500
      omega
    · exact ht
  exact ⟨by decide, by decide, hguard _ (by decide), by decide, by decide, hguard _ (by decide),
    by decide, by decide, hguard _ (by decide), trivial⟩

end Sentinel
