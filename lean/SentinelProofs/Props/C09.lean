import Sentinel.World
import SentinelProofs.Props.C02
import SentinelProofs.Lemmas.World
import SentinelProofs.Lemmas.Node
/-!
# C09 — system protection rejects inbound traffic exactly when a system metric trips

`sysCheck` is the system slot of `World.build`; `SysObs` is what it observes (global inbound statistics, last load / CPU
reading). Comparisons are the code's `f64` comparisons (`F64.lt`), so "at or above" is `¬ (value < threshold)` and "strictly
above" is `threshold < value`.
-/
set_option autoImplicit false
namespace Sentinel

/-- the property's wording of "rule `r` trips on observation `o`" -/
def TripsSpec (r : SysRule) (o : SysObs) : Prop :=
  match r.metric with
  | .inboundQps => F64.lt o.qps r.thr = false                         -- at or above
  | .concurrency => F64.lt (F64.ofNat o.conc) r.thr = false           -- at or above
  | .avgRt => F64.lt o.avgRt r.thr = false                            -- at or above
  | .load => F64.lt r.thr o.load = true ∧                             -- strictly above; under BBR only with the two conditions below
      (r.bbr = true → F64.lt (F64.ofNat 1) (F64.ofNat o.conc) = true ∧
        F64.lt (F64.div (F64.mul o.maxComplete o.minRt) (F64.ofNat 1000)) (F64.ofNat o.conc) = true)
  | .cpuUsage => F64.lt r.thr o.cpu = true ∧
      (r.bbr = true → F64.lt (F64.ofNat 1) (F64.ofNat o.conc) = true ∧
        F64.lt (F64.div (F64.mul o.maxComplete o.minRt) (F64.ofNat 1000)) (F64.ofNat o.conc) = true)

/-- the value a rule reports as snapshot -/
def observed (r : SysRule) (o : SysObs) : F64 :=
  match r.metric with
  | .inboundQps => o.qps
  | .concurrency => F64.ofNat o.conc
  | .avgRt => o.avgRt
  | .load => o.load
  | .cpuUsage => o.cpu

/-- `can_pass_check` is the property's wording -/
theorem trips_iff_spec (r : SysRule) (o : SysObs) : (r.trips o).1 = true ↔ TripsSpec r o := by
  unfold SysRule.trips TripsSpec bbrExceeded
  cases r.metric with
  | inboundQps | concurrency | avgRt => simp
  | load | cpuUsage => cases r.bbr <;> simp

theorem trips_snapshot (r : SysRule) (o : SysObs) : (r.trips o).2 = observed r o := by
  unfold SysRule.trips observed
  cases r.metric <;> rfl

theorem sysCheck_eq (rules : List SysRule) (inbound : Bool) (o : SysObs) :
    sysCheck rules inbound o =
      if inbound then (rules.find? (fun r => (r.trips o).1)).map (fun r => (r.id, (r.trips o).2)) else none := by
  unfold sysCheck
  cases inbound
  · rfl
  · cases rules.find? (fun r => (r.trips o).1) <;> rfl

/-- **Decision.** The system slot blocks exactly when the entry is inbound and some rule trips -/
theorem system_decision (rules : List SysRule) (inbound : Bool) (o : SysObs) :
    (sysCheck rules inbound o).isSome = true ↔ inbound = true ∧ ∃ r ∈ rules, TripsSpec r o := by
  rw [sysCheck_eq]
  cases inbound with
  | false => exact ⟨fun h => Bool.noConfusion h, fun h => Bool.noConfusion h.1⟩
  | true =>
    rw [if_pos rfl, Option.isSome_map, List.find?_isSome]
    simp only [trips_iff_spec, true_and]

/-- outbound entries are never affected by system rules -/
theorem system_outbound_untouched (rules : List SysRule) (o : SysObs) : sysCheck rules false o = none := by
  rw [sysCheck_eq]
  rfl

/-- a system rejection carries a rule that trips and the observed value of its metric -/
theorem system_block_carries (rules : List SysRule) (inbound : Bool) (o : SysObs) (id : String) (snap : F64)
    (h : sysCheck rules inbound o = some (id, snap)) :
    inbound = true ∧ ∃ r ∈ rules, r.id = id ∧ TripsSpec r o ∧ snap = observed r o := by
  rw [sysCheck_eq] at h
  cases inbound with
  | false => cases h
  | true =>
    obtain ⟨r, hr, htrips, heq⟩ := find?_map_eq_some h
    have hsnap : snap = observed r o := by rw [← (Prod.mk.inj heq).2, trips_snapshot]
    exact ⟨rfl, r, hr, (Prod.mk.inj heq).1, (trips_iff_spec r o).mp htrips, hsnap⟩

/-- a system block is the first verdict of `runChecks`, and the later slots only replace a verdict by another block -/
theorem runChecks_blocked_of_sys (w : World) (res : String) (batch : Nat) (inbound : Bool)
    (args : Option (List String)) (atts : Option (List (String × String)))
    (h : (sysCheck w.sys inbound w.sysObs).isSome = true) :
    (w.runChecks res batch inbound args atts).res ≠ .pass := by
  apply w.runChecks_verdict res batch inbound args atts (· ≠ .pass)
  · cases hc : sysCheck w.sys inbound w.sysObs with
    | none =>
      -- excluded: `h` says the system slot blocked
      rw [hc] at h
      cases h
    | some p => exact BuildRes.noConfusion
  · exact fun _ _ _ _ => BuildRes.noConfusion

/-- world level: a tripping rule makes every inbound `build` fail (whatever the later slots say) -/
theorem system_trip_blocks (w : World) (eid : Nat) (res : String) (batch : Nat)
    (args : Option (List String)) (atts : Option (List (String × String)))
    (h : ∃ r ∈ w.sys, TripsSpec r w.sysObs) : (w.build eid res batch true args atts).2 ≠ .pass := by
  rw [World.build_verdict]
  exact runChecks_blocked_of_sys w res batch true args atts ((system_decision w.sys true w.sysObs).mpr ⟨rfl, h⟩)

/-- world level: a `build` is never reported as a system block for an outbound entry -/
theorem outbound_never_system_blocked (w : World) (eid : Nat) (res : String) (batch : Nat)
    (args : Option (List String)) (atts : Option (List (String × String))) (rule snap : String) :
    (w.build eid res batch false args atts).2 ≠ .blocked "SystemFlow" rule snap := by
  rw [World.build_verdict]
  apply w.runChecks_verdict res batch false args atts (· ≠ .blocked "SystemFlow" rule snap)
  · rw [system_outbound_untouched]
    exact BuildRes.noConfusion
  · intro ty id snap' hty h
    exact hty (BuildRes.blocked.inj h).1

/-- the observed inbound QPS and minimum RT are the float expressions of the exact window total and minimum of the inbound history -/
theorem sysObs_from_history (w : World) (tl : Nat) (hinv : BInv globalGeo w.inbound.ring w.inbound.hist tl)
    (hnow : tl ≤ w.nowMs) (hguard : 1000 ≤ globalGeo.start w.nowMs) :
    w.sysObs.qps = F64.div (F64.ofNat (windowSum 500 w.inbound.hist (globalGeo.start w.nowMs - 1000 + 500)
        (globalGeo.start w.nowMs) .pass)) defaultReader.intervalS ∧
    w.sysObs.minRt = F64.ofNat (windowMinRt 500 w.inbound.hist (globalGeo.start w.nowMs - 1000 + 500) (globalGeo.start w.nowMs)) := by
  have hWL : globalGeo.L ≤ defaultReader.iv := by decide
  have hWn : defaultReader.iv ≤ globalGeo.interval := by decide
  unfold World.sysObs
  dsimp only
  constructor
  · exact qps_eq globalGeo globalGeo_n globalGeo_L _ _ tl defaultReader _ .pass hinv hnow hWL hWn hguard
  · rw [sliding_min_rt_eq globalGeo globalGeo_n globalGeo_L _ _ tl defaultReader _ hinv hnow hWL hWn hguard]
    rfl

/-! ## non-vacuity -/
example : ∃ o : SysObs, TripsSpec ⟨"a", .concurrency, false, F64.ofNat 2⟩ o := by
  refine ⟨{ qps := F64.zero, conc := 2, avgRt := F64.zero, load := F64.zero, cpu := F64.zero, maxComplete := F64.zero, minRt := F64.zero }, ?_⟩
  unfold TripsSpec
  decide

end Sentinel
