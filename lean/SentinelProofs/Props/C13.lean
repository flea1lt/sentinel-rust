import Sentinel.SlotChain
/-!
# C13 — slot chain contract

About `Sentinel/SlotChain.lean`, for every chain: any number of slots of each kind, arbitrary order values, any check results.
-/
set_option autoImplicit false
namespace Sentinel.SlotChain

/-! ## insertion by order value -/

theorem insertBy_perm {α : Type} (key : α → Nat) (x : α) (l : List α) :
    (insertBy key x l).Perm (x :: l) := by
  induction l with
  | nil => simp [insertBy]
  | cons y ys ih =>
    unfold insertBy
    split
    · exact List.Perm.refl _
    · exact (List.Perm.cons y ih).trans (List.Perm.swap x y ys)

theorem insertBy_sorted {α : Type} (key : α → Nat) (x : α) (l : List α)
    (h : l.Pairwise (fun a b => key a ≤ key b)) :
    (insertBy key x l).Pairwise (fun a b => key a ≤ key b) := by
  induction l with
  | nil => simp [insertBy]
  | cons y ys ih =>
    rw [List.pairwise_cons] at h
    unfold insertBy
    split
    · next hlt =>
      refine List.pairwise_cons.mpr ⟨fun a ha => ?_, List.pairwise_cons.mpr h⟩
      rcases List.mem_cons.mp ha with rfl | ha
      · exact Nat.le_of_lt hlt
      · exact Nat.le_trans (Nat.le_of_lt hlt) (h.1 a ha)
    · next hge =>
      refine List.pairwise_cons.mpr ⟨fun a ha => ?_, ih h.2⟩
      rcases List.mem_cons.mp ((insertBy_perm key x ys).mem_iff.mp ha) with rfl | ha
      · exact Nat.le_of_not_lt hge
      · exact h.1 a ha

/-- `add_*` keeps each vector sorted by order value (for the model's insertion; for an arbitrary
sort that returns a sorted permutation the remaining theorems apply unchanged because they hold for
every chain). -/
theorem add_sorted_perm (c : Chain) (s : Check)
    (h : c.checks.Pairwise (fun a b => a.order ≤ b.order)) :
    (c.addCheck s).checks.Pairwise (fun a b => a.order ≤ b.order) ∧
    (c.addCheck s).checks.Perm (s :: c.checks) :=
  ⟨insertBy_sorted _ s _ h, insertBy_perm _ s _⟩

/-- the same for the preparation slots -/
theorem add_sorted_perm_pre (c : Chain) (s : Slot)
    (h : c.pres.Pairwise (fun a b => a.order ≤ b.order)) :
    (c.addPre s).pres.Pairwise (fun a b => a.order ≤ b.order) ∧ (c.addPre s).pres.Perm (s :: c.pres) :=
  ⟨insertBy_sorted _ s _ h, insertBy_perm _ s _⟩

/-- the same for the statistic slots -/
theorem add_sorted_perm_stat (c : Chain) (s : Slot)
    (h : c.stats.Pairwise (fun a b => a.order ≤ b.order)) :
    (c.addStat s).stats.Pairwise (fun a b => a.order ≤ b.order) ∧ (c.addStat s).stats.Perm (s :: c.stats) :=
  ⟨insertBy_sorted _ s _ h, insertBy_perm _ s _⟩

/-! ## the verdict -/

/-- what a check slot writes into the context: its block error, if it blocks -/
def Check.report (c : Check) : Option (Nat × Nat) :=
  match c.res with
  | .blocked ty => some (ty, c.id)
  | _ => none

theorem Check.report_eq_some {c : Check} {ty src : Nat} (h : c.report = some (ty, src)) : c.id = src ∧ c.res = .blocked ty := by
  unfold Check.report at h
  split at h
  · next hres =>
    cases h
    exact ⟨rfl, hres⟩
  · cases h

theorem Check.report_isSome (c : Check) : c.report.isSome = c.res.isBlocked := by
  unfold Check.report Res.isBlocked
  cases c.res <;> rfl

/-- the verdict is the report of the last slot that blocks -/
theorem verdict_eq (cs : List Check) : verdict cs = cs.reverse.findSome? Check.report := by
  unfold verdict
  rw [List.foldl_eq_foldr_reverse]
  induction cs.reverse with
  | nil => rfl
  | cons c l ih =>
    rw [List.foldr_cons, ih, List.findSome?_cons]
    unfold Check.report
    cases c.res <;> rfl

/-- the entry is blocked iff at least one rule-check slot returned `TokenResult::Blocked`: a later `Pass` or `Wait` does not undo it -/
theorem blocked_iff_some_check_blocked (c : Chain) :
    c.entry.1.isSome = true ↔ ∃ s ∈ c.checks, s.res.isBlocked = true := by
  show (verdict c.checks).isSome = true ↔ _
  simp only [verdict_eq, List.findSome?_isSome_iff, List.mem_reverse, Check.report_isSome]

/-- the block error handed to the caller (type and slot) is the one a blocking slot produced, never a made-up one -/
theorem error_from_a_blocking_slot (c : Chain) (ty src : Nat) (h : c.entry.1 = some (ty, src)) :
    ∃ s ∈ c.checks, s.id = src ∧ s.res = .blocked ty := by
  obtain ⟨s, hs, e⟩ := List.exists_of_findSome?_eq_some ((verdict_eq c.checks).symm.trans h)
  exact ⟨s, List.mem_reverse.mp hs, Check.report_eq_some e⟩

/-- whatever result the context carries when the check phase starts (a blocked verdict of an earlier entry on the same
context, or one written by a preparation slot) is discarded: the entry is decided by its own check slots only -/
theorem stale_result_discarded (c : Chain) (r0 : Option (Nat × Nat)) : c.entryOn r0 = c.entry := by
  cases r0 <;> rfl

/-- hence `blocked iff some check slot blocked` and `the error comes from a blocking slot` hold on a reused or dirtied context -/
theorem blocked_iff_some_check_blocked_on (c : Chain) (r0 : Option (Nat × Nat)) :
    (c.entryOn r0).1.isSome = true ↔ ∃ s ∈ c.checks, s.res.isBlocked = true := by
  rw [stale_result_discarded]; exact blocked_iff_some_check_blocked c

theorem error_from_a_blocking_slot_on (c : Chain) (r0 : Option (Nat × Nat)) (ty src : Nat) (h : (c.entryOn r0).1 = some (ty, src)) :
    ∃ s ∈ c.checks, s.id = src ∧ s.res = .blocked ty := by
  rw [stale_result_discarded] at h; exact error_from_a_blocking_slot c ty src h

/-! ## the call log of an entry and its counts -/

/-- every preparation slot, then every check slot, then every statistic slot, each group in the chain's order, each slot once -/
theorem entry_call_order (c : Chain) :
    c.entry.2 = c.pres.map (fun s => Event.pre s.id) ++ c.checks.map (fun s => Event.chk s.id)
      ++ c.stats.map (statNote c.entry.1) := rfl

/-- number of pass-or-blocked notifications stat slot `i` received in a log -/
def notes (i : Nat) (l : List Event) : Nat :=
  (l.filter (fun e => match e with
    | .pass j => j == i
    | .blk j _ _ => j == i
    | _ => false)).length

/-- number of completion notifications stat slot `i` received in a log -/
def dones (i : Nat) (l : List Event) : Nat :=
  (l.filter (fun e => match e with
    | .done j => j == i
    | _ => false)).length

theorem entry_count (c : Chain) (p : Event → Bool) :
    (c.entry.2.filter p).length = c.pres.countP (fun s => p (.pre s.id)) + c.checks.countP (fun s => p (.chk s.id))
      + c.stats.countP (fun s => p (statNote c.entry.1 s)) := by
  simp only [entry_call_order, List.filter_append, List.length_append, ← List.countP_eq_length_filter, List.countP_map]
  rfl

theorem count_map_id (i : Nat) (l : List Slot) : (l.map (·.id)).count i = l.countP (fun s => s.id == i) := by
  rw [List.count_eq_countP, List.countP_map]; rfl

theorem notes_entry (c : Chain) (i : Nat) : notes i c.entry.2 = (c.stats.map (·.id)).count i := by
  rw [notes, entry_count, count_map_id]
  -- `pre` and `chk` events are no notifications: `simp only` reduces the `match` on their constructors to `false`
  simp only [List.countP_false, Function.const, Nat.zero_add]
  -- a pass and a blocked notification both carry the slot's id
  have hnote : ∀ s : Slot, (match statNote c.entry.1 s with | .pass j => j == i | .blk j _ _ => j == i | _ => false) = (s.id == i) := by
    intro s
    rcases c.entry.1 with _ | ⟨_, _⟩ <;> rfl
  exact congrArg (List.countP · c.stats) (funext hnote)

theorem dones_entry (c : Chain) (i : Nat) : dones i c.entry.2 = 0 := by
  rw [dones, entry_count]
  -- neither a pass nor a blocked notification is a completion; `pre` and `chk` events reduce as in `notes_entry`
  have hnote : ∀ s : Slot, (match statNote c.entry.1 s with | Event.done j => j == i | _ => false) = false := by
    intro s
    rcases c.entry.1 with _ | ⟨_, _⟩ <;> rfl
  simp only [hnote, List.countP_false, Function.const]

theorem dones_append (i : Nat) (a b : List Event) : dones i (a ++ b) = dones i a + dones i b := by
  simp only [dones, List.filter_append, List.length_append]

theorem dones_exit (c : Chain) (i : Nat) : dones i (c.exit false) = (c.stats.map (·.id)).count i := by
  rw [count_map_id, dones, ← List.countP_eq_length_filter]
  exact List.countP_map

/-! ## the life of an entry -/

/-- a blocked entry is exited with `blocked = true`, which notifies nobody -/
theorem build_eq (c : Chain) : c.build = c.entry := by
  unfold Chain.build Chain.exit
  rcases c.entry with ⟨_ | v, log⟩
  · rfl
  · simp only [if_true, List.append_nil]

/-- whole life of an entry: `build`, then (only if it passed, because only then the caller holds an
entry) one `exit` -/
def lifeLog (c : Chain) : List Event :=
  let (v, log) := c.build
  match v with
  | some _ => log
  | none => log ++ c.exit false

theorem lifeLog_eq (c : Chain) : lifeLog c = c.entry.2 ++ if c.entry.1.isSome then [] else c.exit false := by
  unfold lifeLog
  rw [build_eq]
  rcases c.entry with ⟨_ | v, log⟩
  · rfl
  · exact (List.append_nil _).symm

/-- each statistic slot receives exactly one pass-or-blocked notification per entry -/
theorem one_notification_per_stat (c : Chain) (hn : (c.stats.map (·.id)).Nodup) (s : Slot)
    (hs : s ∈ c.stats) : notes s.id c.build.2 = 1 := by
  rw [build_eq, notes_entry, hn.count, if_pos (List.mem_map_of_mem hs)]

/-- the kind of the notification agrees with the verdict returned to the caller -/
theorem notification_matches_verdict (c : Chain) (e : Event) (he : e ∈ c.stats.map (statNote c.entry.1)) :
    (c.entry.1 = none → ∃ i, e = .pass i) ∧
    (∀ ty src, c.entry.1 = some (ty, src) → ∃ i, e = .blk i ty src) := by
  obtain ⟨s, _, rfl⟩ := List.mem_map.mp he
  constructor
  · intro h
    rw [h]
    exact ⟨s.id, rfl⟩
  · intro ty src h
    rw [h]
    exact ⟨s.id, rfl⟩

/-- a completion notification is delivered exactly once per statistic slot iff the entry passed, and
never when it was blocked (`Wait` results count as not blocked) -/
theorem completion_iff_passed (c : Chain) (hn : (c.stats.map (·.id)).Nodup) (s : Slot)
    (hs : s ∈ c.stats) :
    dones s.id (lifeLog c) = if c.entry.1.isSome then 0 else 1 := by
  rw [lifeLog_eq, dones_append, dones_entry, Nat.zero_add]
  split
  · rfl
  · rw [dones_exit, hn.count, if_pos (List.mem_map_of_mem hs)]

/-! ## non-vacuity: a concrete chain with equal order values, a wait, two blockers -/

def exampleChain : Chain :=
  ((((Chain.empty.addPre ⟨0, 3⟩).addPre ⟨1, 1⟩).addCheck ⟨0, 5, .pass⟩).addCheck ⟨1, 2, .blocked 1⟩
    |>.addCheck ⟨2, 2, .wait 7⟩ |>.addCheck ⟨3, 7, .blocked 0⟩ |>.addStat ⟨0, 4⟩ |>.addStat ⟨1, 4⟩
    |>.addStat ⟨2, 1⟩)

example : exampleChain.entry.1 = some (0, 3) := by decide
example : (exampleChain.entryOn (some (9, 9))).1 = some (0, 3) := by decide
example : (exampleChain.stats.map (·.id)).Nodup := by decide
example : ∃ s ∈ exampleChain.checks, s.res.isBlocked = true := ⟨⟨1, 2, .blocked 1⟩, by decide, rfl⟩

end Sentinel.SlotChain
