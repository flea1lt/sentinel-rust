import Sentinel.World
import Sentinel.Hotspot
import SentinelProofs.Lemmas.Lru
import SentinelProofs.Lemmas.World
/-!
# C05 — concurrency caps: isolation rules, and hotspot concurrency rules per parameter value

`isoCheck` is the isolation slot of `World.build`; admission raises the in-flight count by one
(`Node.recordPass`), exit lowers it by one (`Node.recordComplete`). The hotspot half says the
same of one value's in-flight cell, and that the rule's LRU counter is those cells while the distinct values fit it.
-/
set_option autoImplicit false
namespace Sentinel

theorem isoCheck_eq (rules : List IsoRule) (node : Node) (batch : Nat) :
    isoCheck rules node batch = (rules.find? (fun r => node.conc + batch > r.thr)).map (fun r => (r.id, node.conc)) := by
  unfold isoCheck
  cases rules.find? (fun r => node.conc + batch > r.thr) <;> rfl

/-- **Admission rule** of the isolation slot -/
theorem isolation_admit_iff (rules : List IsoRule) (node : Node) (batch : Nat) :
    isoCheck rules node batch = none ↔ ∀ r ∈ rules, node.conc + batch ≤ r.thr := by
  rw [isoCheck_eq, Option.map_eq_none_iff, List.find?_eq_none]
  exact forall₂_congr (fun r _ => by rw [decide_eq_true_eq, Nat.not_lt])

/-- a rejection names a rule that is really exceeded, with the in-flight count as snapshot -/
theorem isolation_block_names_rule (rules : List IsoRule) (node : Node) (batch : Nat) (id : String) (snap : Nat)
    (h : isoCheck rules node batch = some (id, snap)) :
    ∃ r ∈ rules, r.id = id ∧ node.conc + batch > r.thr ∧ snap = node.conc := by
  rw [isoCheck_eq] at h
  obtain ⟨r, hr, hgt, heq⟩ := find?_map_eq_some h
  exact ⟨r, hr, (Prod.mk.inj heq).1, of_decide_eq_true hgt, (Prod.mk.inj heq).2.symm⟩

/-- the block type delivered for an isolation rejection is `Isolation` -/
theorem isolation_block_is_isolation : World.isoBlockType = "Isolation" := rfl

inductive IOp where
  | enter (batch : Nat)
  | exit
  deriving Repr

/-- in-flight count and number of admitted entries not yet exited -/
structure IsoSys where
  conc : Nat := 0
  openCount : Nat := 0
  deriving Repr

/-- the isolation-relevant part of `World.build` / `World.exit`; an `exit` without an open entry is not a legal call -/
def IsoSys.step (rules : List IsoRule) (s : IsoSys) : IOp → IsoSys × Bool
  | .enter batch =>
    if rules.all (fun r => s.conc + batch ≤ r.thr) then ({ conc := s.conc + 1, openCount := s.openCount + 1 }, true)
    else (s, false)
  | .exit => if s.openCount = 0 then (s, false) else ({ conc := s.conc - 1, openCount := s.openCount - 1 }, true)

/-- the operations newest first -/
def IsoSys.run (rules : List IsoRule) : List IOp → IsoSys
  | [] => {}
  | op :: older => ((IsoSys.run rules older).step rules op).1

theorem iso_all_iff (rules : List IsoRule) (conc batch : Nat) :
    rules.all (fun r => conc + batch ≤ r.thr) = true ↔ ∀ r ∈ rules, conc + batch ≤ r.thr := by
  rw [List.all_eq_true]
  exact forall₂_congr (fun _ _ => decide_eq_true_iff)

/-- the in-flight count always equals the number of admitted, un-exited entries -/
theorem iso_conc_eq_open (rules : List IsoRule) (ops : List IOp) :
    (IsoSys.run rules ops).conc = (IsoSys.run rules ops).openCount := by
  induction ops with
  | nil => rfl
  | cons op older ih =>
    simp only [IsoSys.run]
    cases op with
    | enter b =>
      simp only [IsoSys.step]
      split
      · exact congrArg (· + 1) ih
      · exact ih
    | exit =>
      simp only [IsoSys.step]
      split
      · exact ih
      · exact congrArg (· - 1) ih

/-- **Cap.** With batch counts ≥ 1, in-flight entries never exceed any rule's threshold, after any sequence -/
theorem isolation_cap (rules : List IsoRule) (ops : List IOp)
    (hb : ∀ op ∈ ops, match op with | .enter b => 1 ≤ b | .exit => True) :
    ∀ r ∈ rules, (IsoSys.run rules ops).conc ≤ r.thr := by
  induction ops with
  | nil => intro r _; exact Nat.zero_le _
  | cons op older ih =>
    have ih' := ih (fun o ho => hb o (List.mem_cons_of_mem _ ho))
    intro r hr
    simp only [IsoSys.run]
    cases op with
    | enter b =>
      have hb1 : 1 ≤ b := hb (.enter b) List.mem_cons_self
      simp only [IsoSys.step]
      split
      · next hall =>
        have := (iso_all_iff rules _ b).mp hall r hr
        dsimp only
        omega
      · exact ih' r hr
    | exit =>
      simp only [IsoSys.step]
      split
      · exact ih' r hr
      · have := ih' r hr
        dsimp only
        omega

/-- **Freed capacity is usable at once**: right after an exit, a request with `conc + n ≤ T` for every rule is admitted -/
theorem freed_capacity_usable (rules : List IsoRule) (ops : List IOp) (n : Nat)
    (hopen : (IsoSys.run rules ops).openCount ≠ 0)
    (hfit : ∀ r ∈ rules, (IsoSys.run rules ops).conc - 1 + n ≤ r.thr) :
    ((IsoSys.run rules (.exit :: ops)).step rules (.enter n)).2 = true := by
  simp only [IsoSys.run, IsoSys.step, hopen, if_false]
  rw [if_pos ((iso_all_iff rules _ n).mpr hfit)]

/-- what ties `IsoSys` to the model: its admission test is `isoCheck`, the isolation slot of `World.build`, on a node with that
in-flight count -/
theorem isoSys_enter_eq_isoCheck (rules : List IsoRule) (s : IsoSys) (node : Node) (b : Nat) (h : node.conc = s.conc) :
    (s.step rules (.enter b)).2 = (isoCheck rules node b).isNone := by
  have hiff : (isoCheck rules node b).isNone = true ↔ rules.all (fun r => s.conc + b ≤ r.thr) = true := by
    rw [Option.isNone_iff_eq_none, isolation_admit_iff, h, iso_all_iff]
  simp only [IsoSys.step]
  split
  · next hall => exact (hiff.mpr hall).symm
  · next hall => exact (Bool.eq_false_iff.mpr (fun hn => hall (hiff.mp hn))).symm

/-! ## hotspot concurrency: the same guarantee per parameter value

`HsCtrl.checkConc` reads one cell of the rule's counter (the value's in-flight count; absent = never seen), the
statistic slot raises it on admission and lowers it on exit. `hcStep` is that behaviour for ONE value with
effective threshold `T`. Note: the code counts entries (the batch count plays no role) and the first request for a
never-seen value is always admitted. -/

/-- one value's cell through one check -/
def hcCheck (T : Nat) (cell : Option Nat) : Option Nat × Bool :=
  match cell with
  | none => (some 0, true)
  | some v => (some v, decide (v + 1 ≤ T))

/-- one value's cell through one request (checked, then raised if admitted) or one exit -/
def hcStep (T : Nat) (cell : Option Nat) : IOp → Option Nat × Bool
  | .enter _ =>
    let (c, ok) := hcCheck T cell
    (if ok then c.map (· + 1) else c, ok)
  | .exit => (cell.map (· - 1), true)

/-- the operations newest first, as `IsoSys.run` -/
def hcRun (T : Nat) : List IOp → Option Nat
  | [] => none
  | op :: older => (hcStep T (hcRun T older) op).1

/-- **Admission rule per value** -/
theorem hs_conc_admit_iff (T : Nat) (cell : Option Nat) :
    (hcCheck T cell).2 = true ↔ cell = none ∨ ∃ v, cell = some v ∧ v + 1 ≤ T := by
  cases cell <;> simp [hcCheck]

theorem hcStep_enter_some (T x b : Nat) :
    hcStep T (some x) (.enter b) = if x + 1 ≤ T then (some (x + 1), true) else (some x, false) := by
  by_cases h : x + 1 ≤ T
  · simp only [hcStep, hcCheck, decide_eq_true h, if_pos h, if_true, Option.map_some]
  · simp only [hcStep, hcCheck, decide_eq_false h, if_neg h, Bool.false_eq_true, if_false]

theorem hcStep_le (T : Nat) (hT : 1 ≤ T) (cell : Option Nat) (op : IOp) (h : ∀ x, cell = some x → x ≤ T) :
    ∀ y, (hcStep T cell op).1 = some y → y ≤ T := by
  intro y hy
  cases op with
  | exit =>
    cases cell with
    | none => cases hy
    | some x =>
      cases hy
      exact Nat.le_trans (Nat.sub_le x 1) (h x rfl)
  | enter b =>
    cases cell with
    | none =>
      cases hy
      exact hT
    | some x =>
      rw [hcStep_enter_some] at hy
      split at hy
      · next hle =>
        cases hy
        exact hle
      · cases hy
        exact h _ rfl

/-- **Cap per value**: for `T ≥ 1`, the value's in-flight count never exceeds `T`, after any build/exit sequence -/
theorem hs_conc_cap (T : Nat) (hT : 1 ≤ T) (ops : List IOp) : ∀ v, hcRun T ops = some v → v ≤ T := by
  induction ops with
  | nil => intro v h; cases h
  | cons op older ih => exact hcStep_le T hT _ op ih

theorem checkConc_fst (c : HsCtrl) (arg : String) : (c.checkConc arg).1 = { c with conc := (c.conc.addIfAbsent arg 0).1 } := by
  unfold HsCtrl.checkConc
  dsimp only
  split
  · rfl
  · split <;> rfl

theorem checkConc_snd (c : HsCtrl) (arg : String) :
    (c.checkConc arg).2 = match c.conc.peek arg with
      | none => .pass
      | some v => if v + 1 ≤ c.rule.thrFor arg then .pass else .blocked (v + 1) "concurrency" := by
  unfold HsCtrl.checkConc
  dsimp only
  rw [Lru.addIfAbsent_snd]
  cases c.conc.peek arg with
  | none => rfl
  | some v =>
    dsimp only
    split <;> rfl

/-- **The rule's check is the per-value check**: for a value with room in the counter, `checkConc` decides as `hcCheck` does on
that value's cell, names the in-flight count + 1 as snapshot, and leaves every other value's cell untouched -/
theorem checkConc_cell (c : HsCtrl) (arg other : String) (h : c.conc.Room arg) :
    ((c.checkConc arg).2 = .pass ↔ (hcCheck (c.rule.thrFor arg) (c.conc.peek arg)).2 = true) ∧
    (c.checkConc arg).1.conc.peek arg = (hcCheck (c.rule.thrFor arg) (c.conc.peek arg)).1 ∧
    (other ≠ arg → (c.checkConc arg).1.conc.peek other = c.conc.peek other) ∧
    (∀ snap why, (c.checkConc arg).2 = .blocked snap why → ∃ v, c.conc.peek arg = some v ∧ snap = v + 1) := by
  have hA := Lru.addIfAbsent_peek c.conc arg arg 0 h
  rw [if_pos rfl] at hA
  rw [checkConc_fst, checkConc_snd]
  have hfr : other ≠ arg → (c.conc.addIfAbsent arg 0).1.peek other = c.conc.peek other :=
    fun hne => (Lru.addIfAbsent_peek c.conc arg other 0 h).trans (if_neg hne)
  rcases hp : c.conc.peek arg with _ | v
  · rw [hp] at hA
    exact ⟨iff_of_true rfl rfl, hA, hfr, nofun⟩
  · rw [hp] at hA
    dsimp only [hcCheck]
    by_cases hle : v + 1 ≤ c.rule.thrFor arg
    · rw [if_pos hle]
      exact ⟨iff_of_true rfl (decide_eq_true hle), hA, hfr, nofun⟩
    · rw [if_neg hle]
      have hno : ¬ decide (v + 1 ≤ c.rule.thrFor arg) = true := fun hd => hle (of_decide_eq_true hd)
      exact ⟨iff_of_false nofun hno, hA, hfr, fun snap why e => ⟨v, rfl, (HsRes.blocked.inj e).1.symm⟩⟩

/-- a per-value override replaces the threshold for that value only -/
theorem override_local (r : HsRule) (v w : String) (t : Nat) (hvw : (v == w) = false)
    (hw : r.specific.find? (fun p => p.1 == w) = none) :
    ({ r with specific := (v, t) :: r.specific } : HsRule).thrFor v = t ∧
    ({ r with specific := (v, t) :: r.specific } : HsRule).thrFor w = r.thr := by
  constructor
  · simp [HsRule.thrFor]
  · simp [HsRule.thrFor, hvw, hw]

/-- a keyed parameter, when present, has priority over the positional one -/
theorem extract_key_priority (r : HsRule) (args : Option (List String)) (atts : List (String × String)) (v : String)
    (hk : r.paramKey.trimAscii.toString ≠ "")
    (hv : (atts.find? (fun p => p.1 == r.paramKey.trimAscii.toString)).map (·.2) = some v) :
    extractArgs r args (some atts) = some v := by
  unfold extractArgs
  have : (r.paramKey.trimAscii.toString == "") = false := by simpa using hk
  simp only [this, Bool.false_eq_true, if_false, hv]

/-- a negative index counts from the end of the argument list -/
theorem extract_negative_index (r : HsRule) (args : List String) (k : Nat) (hk : r.paramIndex = -(k + 1 : Nat))
    (hlen : k < args.length) :
    extractArgs r (some args) none = args[args.length - (k + 1)]? := by
  unfold extractArgs
  have hneg : r.paramIndex < 0 := by rw [hk]; omega
  have hidx : r.paramIndex + (args.length : Int) = ((args.length - (k + 1) : Nat) : Int) := by rw [hk]; omega
  simp only [hneg, if_true, hidx]
  have : ¬ (((args.length - (k + 1) : Nat) : Int) < 0) := by omega
  simp only [this, if_false, Int.toNat_natCast]

/-- an index beyond the argument list (and no attachments) makes the rule not apply -/
theorem extract_missing (r : HsRule) (args : List String) (hpos : 0 ≤ r.paramIndex) (hout : args.length ≤ r.paramIndex.toNat) :
    extractArgs r (some args) none = none := by
  unfold extractArgs
  have h1 : ¬ r.paramIndex < 0 := by omega
  simp only [h1, if_false]
  exact List.getElem?_eq_none hout

/-- `extract_args` on an entry that carries neither arguments nor attachments: the rule does not apply -/
theorem extract_nothing (r : HsRule) : extractArgs r none none = none := rfl

theorem concAdjust_reach (c : HsCtrl) (arg : String) (up : Bool) : Lru.Reach arg c.conc (c.concAdjust (some arg) up).conc := by
  unfold HsCtrl.concAdjust
  cases c.rule.metric with
  | qps => exact .same
  | concurrency =>
    dsimp only
    split
    · exact .store _ .get
    · exact .get

/-- the statistic slot's adjustment (`on_entry_pass` / `on_completed`) of a value's in-flight cell -/
theorem concAdjust_cell (c : HsCtrl) (arg other : String) (up : Bool) (hm : c.rule.metric = .concurrency) :
    (c.concAdjust (some arg) up).conc.peek arg = (c.conc.peek arg).map (fun x => if up then x + 1 else x - 1) ∧
    (other ≠ arg → (c.concAdjust (some arg) up).conc.peek other = c.conc.peek other) := by
  unfold HsCtrl.concAdjust
  rw [hm]
  dsimp only
  rw [Lru.get_snd]
  have hg := Lru.peek_get c.conc arg
  -- all that matters of the counter after `get` is that it maps every key as before (`hg`)
  generalize (c.conc.get arg).fst = G at hg ⊢
  rcases hp : c.conc.peek arg with _ | x
  · exact ⟨(hg arg).trans hp, fun _ => hg other⟩
  · refine ⟨Lru.peek_store_self _ ((hg arg).trans hp), fun hne => ?_⟩
    rw [Lru.peek_store, if_neg hne]
    exact hg other

theorem concAdjust_rule (c : HsCtrl) (arg : Option String) (up : Bool) : (c.concAdjust arg up).rule = c.rule := by
  unfold HsCtrl.concAdjust
  split
  · dsimp only
    split <;> rfl
  · rfl

/-- the in-flight counter's invariant with respect to a universe `U` of parameter values that fits it -/
structure ConcInv (c : HsCtrl) (U : List String) : Prop where
  cap : c.conc.cap ≠ 0
  fit : U.length ≤ c.conc.cap
  sub : ∀ x ∈ c.conc.keys, x ∈ U
  nd : c.conc.keys.Nodup

theorem ConcInv.fits {c : HsCtrl} {U : List String} (h : ConcInv c U) : c.conc.Fits U := ⟨h.cap, h.fit, h.sub, h.nd⟩

theorem ConcInv.step {c c' : HsCtrl} {U : List String} {arg : String} (h : ConcInv c U) (ha : arg ∈ U) (s : Lru.Reach arg c.conc c'.conc) :
    ConcInv c' U :=
  have f := h.fits.reach ha s
  ⟨f.cap, f.fit, f.sub, f.nd⟩

/-- one request through the controller as the slots drive it (`build_pass_adjusts_hotspot`, `exit_adjusts_hotspot`) -/
def HsCtrl.concOp (c : HsCtrl) (v : String) : IOp → HsCtrl × Bool
  | .enter _ =>
    let (c1, r) := c.checkConc v
    if r = .pass then (c1.concAdjust (some v) true, true) else (c1, false)
  | .exit => (c.concAdjust (some v) false, true)

def HsCtrl.runConc (c : HsCtrl) : List (String × IOp) → HsCtrl × List Bool
  | [] => (c, [])
  | (v, op) :: rest =>
    let (c1, ok) := c.concOp v op
    let (c2, oks) := c1.runConc rest
    (c2, ok :: oks)

/-- the same sequence seen by independent per-value cells (`hcStep`) -/
def cellsRun (rule : HsRule) (cells : String → Option Nat) : List (String × IOp) → (String → Option Nat) × List Bool
  | [] => (cells, [])
  | (v, op) :: rest =>
    let (s', ok) := hcStep (rule.thrFor v) (cells v) op
    let (cells2, oks) := cellsRun rule (fun x => if x = v then s' else cells x) rest
    (cells2, ok :: oks)

/-- one operation of the controller is one `hcStep` on the value's own cell and touches no other cell; the invariant and the
rule are kept, which is what the induction over a run needs besides -/
theorem concOp_cell (c : HsCtrl) (U : List String) (v : String) (op : IOp) (h : ConcInv c U) (hv : v ∈ U)
    (hm : c.rule.metric = .concurrency) :
    (c.concOp v op).2 = (hcStep (c.rule.thrFor v) (c.conc.peek v) op).2 ∧
    (c.concOp v op).1.conc.peek v = (hcStep (c.rule.thrFor v) (c.conc.peek v) op).1 ∧
    (∀ x, x ≠ v → (c.concOp v op).1.conc.peek x = c.conc.peek x) ∧
    ConcInv (c.concOp v op).1 U ∧ (c.concOp v op).1.rule = c.rule := by
  have hroom := h.fits.room hv
  cases op with
  | exit =>
    simp only [HsCtrl.concOp, hcStep]
    obtain ⟨a1, _⟩ := concAdjust_cell c v v false hm
    exact ⟨trivial, a1, fun x hx => (concAdjust_cell c v x false hm).2 hx, h.step hv (concAdjust_reach c v false),
      concAdjust_rule _ _ _⟩
  | enter b =>
    obtain ⟨k1, k2, _, _⟩ := checkConc_cell c v v hroom
    have kfr : ∀ x, x ≠ v → (c.checkConc v).1.conc.peek x = c.conc.peek x := fun x hx => (checkConc_cell c v x hroom).2.2.1 hx
    have hrule1 : (c.checkConc v).1.rule = c.rule := by rw [checkConc_fst]
    have hinv1 : ConcInv (c.checkConc v).1 U := h.step hv (checkConc_fst c v ▸ .add 0)
    simp only [HsCtrl.concOp, hcStep]
    by_cases hp : (c.checkConc v).2 = .pass
    · have hok : (hcCheck (c.rule.thrFor v) (c.conc.peek v)).2 = true := k1.mp hp
      have hm1 : (c.checkConc v).1.rule.metric = .concurrency := by rw [hrule1]; exact hm
      obtain ⟨a1, _⟩ := concAdjust_cell (c.checkConc v).1 v v true hm1
      simp only [hp, if_true, hok]
      refine ⟨trivial, ?_, fun x hx => ?_, hinv1.step hv (concAdjust_reach _ v true), (concAdjust_rule _ _ _).trans hrule1⟩
      · rw [a1, k2]
        rfl
      · rw [(concAdjust_cell (c.checkConc v).1 v x true hm1).2 hx]
        exact kfr x hx
    · have hok : (hcCheck (c.rule.thrFor v) (c.conc.peek v)).2 = false := Bool.eq_false_iff.mpr (fun hb => hp (k1.mpr hb))
      simp only [hp, if_false, hok]
      exact ⟨trivial, k2, kfr, hinv1, hrule1⟩

/-- **No cross-talk, every history (hotspot concurrency)**: over a set of distinct values no larger than the rule's capacity,
the controller admits exactly what independent per-value in-flight cells (`hcStep`) admit, and holds exactly their counts;
nothing is evicted. -/
theorem conc_run_refines_cells (c : HsCtrl) (U : List String) (ops : List (String × IOp)) (h : ConcInv c U)
    (hm : c.rule.metric = .concurrency) (hU : ∀ o ∈ ops, o.1 ∈ U) :
    (c.runConc ops).2 = (cellsRun c.rule c.conc.peek ops).2 ∧
    ConcInv (c.runConc ops).1 U ∧
    (∀ v, (c.runConc ops).1.conc.peek v = (cellsRun c.rule c.conc.peek ops).1 v) := by
  induction ops generalizing c with
  | nil => exact ⟨rfl, h, fun _ => rfl⟩
  | cons o rest ih =>
    obtain ⟨v, op⟩ := o
    have hv : v ∈ U := hU _ List.mem_cons_self
    have hU' : ∀ o ∈ rest, o.1 ∈ U := fun o ho => hU o (List.mem_cons_of_mem _ ho)
    -- one step: the verdict, the value's own cell, the other cells, the invariant, the rule
    obtain ⟨hout, hown, hframe, hinv, hrule⟩ := concOp_cell c U v op h hv hm
    have hcells := eq_update hown hframe
    obtain ⟨i1, i2, i3⟩ := ih (c.concOp v op).1 hinv (hrule ▸ hm) hU'
    rw [hrule, hcells] at i1 i3
    simp only [HsCtrl.runConc, cellsRun]
    refine ⟨?_, i2, i3⟩
    rw [i1, hout]

theorem cellsRun_le (rule : HsRule) (cells : String → Option Nat) (ops : List (String × IOp)) (hT : ∀ v, 1 ≤ rule.thrFor v)
    (h0 : ∀ v x, cells v = some x → x ≤ rule.thrFor v) :
    ∀ v x, (cellsRun rule cells ops).1 v = some x → x ≤ rule.thrFor v := by
  induction ops generalizing cells with
  | nil => intro v x hx; exact h0 v x hx
  | cons o rest ih =>
    obtain ⟨w, op⟩ := o
    intro v x hx
    simp only [cellsRun] at hx
    refine ih (fun y => if y = w then (hcStep (rule.thrFor w) (cells w) op).1 else cells y) ?_ v x hx
    intro v' x' hx'
    by_cases hv : v' = w
    · subst hv
      simp only [if_true] at hx'
      exact hcStep_le _ (hT v') _ op (h0 v') x' hx'
    · simp only [hv, if_false] at hx'
      exact h0 v' x' hx'

/-- **Cap per value through the controller, every history**: with every threshold (rule or override) at least 1, over at most
`capacity` distinct values no value's in-flight count ever exceeds its own threshold -/
theorem conc_cap_every_value (c : HsCtrl) (U : List String) (ops : List (String × IOp)) (h : ConcInv c U)
    (hm : c.rule.metric = .concurrency) (hU : ∀ o ∈ ops, o.1 ∈ U) (hT : ∀ v, 1 ≤ c.rule.thrFor v)
    (h0 : ∀ v x, c.conc.peek v = some x → x ≤ c.rule.thrFor v) :
    ∀ v x, (c.runConc ops).1.conc.peek v = some x → x ≤ c.rule.thrFor v := by
  obtain ⟨_, _, hcells⟩ := conc_run_refines_cells c U ops h hm hU
  intro v x hx
  rw [hcells v] at hx
  exact cellsRun_le c.rule c.conc.peek ops hT h0 v x hx

/-- **Exit.** `entry.exit()` lowers, in every hotspot controller of the entry's resource, the in-flight cell of the entry's own
parameter value (`concAdjust … false`) and touches nothing else of the hotspot state of that resource -/
theorem exit_adjusts_hotspot (w w' : World) (eid : Nat) (e : Entry)
    (hfind : w.entries.find? (fun p => p.1 == eid) = some (eid, e)) (hne : w.hsCtrls e.res ≠ [])
    (h : w.exit eid = some w') :
    w'.hsCtrls e.res = (w.hsCtrls e.res).map (fun c => c.concAdjust (extractArgs c.rule e.args e.atts) false) := by
  unfold World.exit at h
  rw [hfind] at h
  simp only [Option.some.injEq] at h
  rw [← h]
  exact lookup_setIfAny w.hs e.res _ _ hne

/-- **Admission.** An admitted `build` leaves, for the resource, the controllers as the rule checks left them (`runChecks`)
with the in-flight cell of the entry's own parameter value raised in each (`concAdjust … true`): together with
`exit_adjusts_hotspot` this is `HsCtrl.concOp`, the step the every-history theorems are about -/
theorem build_pass_adjusts_hotspot (w : World) (eid : Nat) (res : String) (batch : Nat) (inbound : Bool)
    (args : Option (List String)) (atts : Option (List (String × String))) (hne : w.hsCtrls res ≠ [])
    (hp : (w.build eid res batch inbound args atts).2 = .pass) :
    (w.build eid res batch inbound args atts).1.hsCtrls res =
      (w.runChecks res batch inbound args atts).hs.map (fun c => c.concAdjust (extractArgs c.rule args atts) true) := by
  unfold World.build at hp ⊢
  dsimp only at hp ⊢
  generalize (w.runChecks res batch inbound args atts).res = r at hp ⊢
  cases r with
  | pass => exact lookup_setIfAny w.hs res _ _ hne
  | blocked ty rule snap => cases hp

/-- the hotspot slot's dispatch is `checkConc` for a concurrency rule -/
theorem check_is_checkConc (c : HsCtrl) (now : Nat) (arg : String) (batch : Nat) (hm : c.rule.metric = .concurrency) :
    c.check now arg batch = c.checkConc arg := by
  unfold HsCtrl.check; rw [hm]

/-- non-vacuity of `ConcInv` -/
example : ConcInv (HsCtrl.new { id := "h", metric := .concurrency, strategy := .reject, thr := 2, maxCap := 2 }) ["a", "b"] :=
  ⟨by decide, by decide, by simp [HsCtrl.new, Lru.keys], by simp [HsCtrl.new, Lru.keys]⟩

example : (IsoSys.run [⟨"i", 2⟩] [.enter 1, .exit, .enter 1, .enter 1, .enter 1]).conc = 2 := by decide
example : isoCheck [⟨"i", 2⟩, ⟨"j", 1⟩] { conc := 1 } 1 = some ("j", 1) := by decide
example : hcRun 2 [.enter 1, .enter 1, .exit, .enter 1, .enter 1, .enter 1] = some 2 := by decide

end Sentinel
