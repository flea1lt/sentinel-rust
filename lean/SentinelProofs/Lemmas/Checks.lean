/-!
The validity checks of the model (`VFlow.check`, `Cfg.check`, `checkReuse`, …) are chains
`if c₁ then fail₁ else if c₂ then fail₂ else … ok`; a chain is `ok` iff every `cᵢ` is false. The lemmas say so for one link.
-/
set_option autoImplicit false
namespace Sentinel

theorem ite_some_eq_none {α : Type} {c : Prop} [Decidable c] {a : α} {e : Option α} :
    (if c then some a else e) = none ↔ ¬ c ∧ e = none := by
  by_cases h : c <;> simp [h]

theorem ite_succ_eq_zero {c : Prop} [Decidable c] {n e : Nat} :
    (if c then n + 1 else e) = 0 ↔ ¬ c ∧ e = 0 := by
  by_cases h : c <;> simp [h]

end Sentinel
