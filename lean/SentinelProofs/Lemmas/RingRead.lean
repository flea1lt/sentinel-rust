import Sentinel.LeapArray
import SentinelProofs.Lemmas.Ring
import SentinelProofs.Lemmas.List
/-!
The read side of the ring refinement (C02, C03): one read theorem (`ring_read`) for every loop over the slots that
folds a measure of the selected buckets with an associative-commutative operation, so for sums, minima and maxima and
for every filter that selects an interval of bucket starts (`ring_interval_read`): the window filter of `SlidingWindowMetric`
(`ring_window_read`) and, where its buckets are resident, the raw `is_deprecated` filter.
-/
set_option autoImplicit false
namespace Sentinel

/-- `!is_deprecated` in one comparison -/
theorem validAt_eq (g : Geo) (now s : Nat) : validAt g now s = decide (now ≤ s + g.interval) := by
  rw [Bool.eq_iff_iff]
  simp only [validAt, deprecated, Bool.not_eq_true', Bool.and_eq_false_iff, decide_eq_false_iff_not, decide_eq_true_eq]
  omega

/-- for a window no wider than the ring the `is_deprecated` clause of `inWin` is implied by the other two -/
theorem inWin_eq (g : Geo) (hL : 0 < g.L) (W now s : Nat) (hWn : W ≤ g.interval) :
    inWin g W now s = (decide (g.start now - W + g.L ≤ s) && decide (s ≤ g.start now)) := by
  have := g.lt_start_add hL now
  have := g.start_le now
  rw [Bool.eq_iff_iff]
  simp only [inWin, deprecated, Bool.and_eq_true, Bool.not_eq_true', Bool.and_eq_false_iff, decide_eq_true_eq,
    decide_eq_false_iff_not]
  omega

section GenericRead
variable {β ε γ : Type}

/-- ring refinement, slot → bucket (C02): a stamped slot of `LeapArray` holds the fold of the events of the bucket its stamp names,
and that stamp is an aligned bucket start of the slot's own index, not after the last write -/
theorem slot_is_bucket (app : β → ε → β) (zero : β) (g : Geo) (r : List (Slot β)) (evs : List (Nat × ε)) (tl : Nat)
    (hinv : RingInv app zero g r evs tl) (i : Nat) (hi : i < g.n) (hne : (slotAt zero r i).stamp ≠ 0) :
    (slotAt zero r i).val = bucketVal app zero g evs (slotAt zero r i).stamp ∧
      (slotAt zero r i).stamp % g.L = 0 ∧ g.idx (slotAt zero r i).stamp = i ∧ (slotAt zero r i).stamp ≤ g.start tl :=
  ⟨hinv.val_eq i hi, hinv.slot i hi hne⟩

/-- ring refinement, bucket → slot (C02): the bucket of an event less than one interval older than the newest bucket is still
resident in its slot -/
theorem event_bucket_resident (app : β → ε → β) (zero : β) (g : Geo) (hn : 0 < g.n) (hL : 0 < g.L)
    (r : List (Slot β)) (evs : List (Nat × ε)) (tl : Nat)
    (hinv : RingInv app zero g r evs tl) (e : Nat × ε) (he : e ∈ evs) (hres : g.start tl < g.start e.1 + g.interval) :
    (slotAt zero r (g.idx e.1)).stamp = g.start e.1 := by
  have hnw := hinv.newest e he
  have hs := hinv.slot (g.idx e.1) (g.idx_lt hn _) (by omega)
  apply Nat.le_antisymm _ hnw.2
  apply Nat.le_of_not_lt
  intro hlt
  have := g.same_slot_gap (g.start_mod e.1) hs.1 (by rw [g.idx_start hL, hs.2.1]) hlt
  omega

/-- `w` sees the event only; `ring_read` lets the weight see the time as well (`maxBucket_bucketVal` needs the event's bucket), so
callers pass `fun e => w e.2` -/
theorem bucketVal_fold (app : β → ε → β) (zero : β) (g : Geo) (op : γ → γ → γ) (u : γ) (m : β → γ) (w : ε → γ)
    (hm0 : m zero = u) (hmapp : ∀ b e, m (app b e) = op (w e) (m b)) (evs : List (Nat × ε)) (b : Nat) :
    m (bucketVal app zero g evs b) = ((evs.filter (fun e => g.start e.1 = b)).map (fun e => w e.2)).foldr op u := by
  unfold bucketVal
  induction evs.filter (fun e => g.start e.1 = b) with
  | nil => exact hm0
  | cons e l ih => simp only [List.foldr_cons, List.map_cons, hmapp, ih]

section Read
variable (op : γ → γ → γ) [Std.Associative op] [Std.Commutative op] (u : γ) (hu : op u u = u)
  (app : β → ε → β) (zero : β) (g : Geo) (hn : 0 < g.n) (hL : 0 < g.L)
  (r : List (Slot β)) (evs : List (Nat × ε)) (tl : Nat) (hinv : RingInv app zero g r evs tl)
  (m : β → γ) (w : Nat × ε → γ)
  (hm : ∀ b, m (bucketVal app zero g evs b) = ((evs.filter (fun e => g.start e.1 = b)).map w).foldr op u)
include hu hn hL hinv hm

/-- A read loop folds, with an associative-commutative `op` from an idempotent `u`, a measure `m`
of the slots that the filter `c` (on stamps) selects. If `m` of a bucket's value is the `op`-fold of the weights `w` of the
bucket's events, and `c` selects the same buckets as the predicate `p` on bucket starts (every selected stamped slot
satisfies `p`; every event whose bucket satisfies `p` is resident in a selected slot), the loop returns the `op`-fold of
the weights of the `p`-selected events: the events are partitioned by slot index, and the class of a selected slot is the
bucket its stamp names. -/
theorem ring_read (c p : Nat → Bool)
    (h1 : ∀ i, i < g.n → c (slotAt zero r i).stamp = true → (slotAt zero r i).stamp ≠ 0 → p (slotAt zero r i).stamp = true)
    (h2 : ∀ e ∈ evs, p (g.start e.1) = true →
      (slotAt zero r (g.idx e.1)).stamp = g.start e.1 ∧ c (g.start e.1) = true) :
    foldSlots zero g r c (fun acc b => op acc (m b)) u
      = ((evs.filter (fun e => p (g.start e.1))).map w).foldr op u := by
  unfold foldSlots
  rw [foldl_if_eq_foldr_filter_map op (List.range g.n) (fun i => c (slotAt zero r i).stamp) (fun i => m (slotAt zero r i).val),
    foldr_op_partition op hu _ (List.nodup_range.sublist List.filter_sublist) _ (fun e => g.idx e.1) w]
  · congr 1
    apply List.map_congr_left
    intro i hi
    obtain ⟨hi, hc⟩ := List.mem_filter.mp hi
    have hi := List.mem_range.mp hi
    rw [hinv.val_eq i hi, hm, List.filter_filter]
    congr 2
    apply List.filter_congr
    intro e he
    -- the `p`-events with slot index `i` are the events of the bucket that slot `i` is stamped with
    rw [Bool.eq_iff_iff, Bool.and_eq_true, decide_eq_true_eq, decide_eq_true_eq]
    constructor
    · intro heq
      have hne : (slotAt zero r i).stamp ≠ 0 := by
        have := (hinv.newest e he).1
        omega
      constructor
      · rw [← g.idx_start hL, heq]
        exact (hinv.slot i hi hne).2.1
      · rw [heq]
        exact h1 i hi hc hne
    · intro ⟨hidx, hp⟩
      rw [← hidx]
      exact (h2 e he hp).1.symm
  · intro e he
    obtain ⟨he, hp⟩ := List.mem_filter.mp he
    obtain ⟨hres, hc⟩ := h2 e he hp
    refine List.mem_filter.mpr ⟨List.mem_range.mpr (g.idx_lt hn _), ?_⟩
    rw [hres]
    exact hc

/-- the read loops of the code select an interval of bucket starts: a filter `c` that, on the ring's stamps, says `lo ≤ stamp ≤ hi`
(`inWin` does so on every stamp, the raw `is_deprecated` filter right after a write: `validAt_eq_window_after_write`). `hres`: the
interval's buckets are all still resident -/
theorem ring_interval_read (c : Nat → Bool) (lo hi : Nat)
    (hc : ∀ i, i < g.n → c (slotAt zero r i).stamp = (decide (lo ≤ (slotAt zero r i).stamp) && decide ((slotAt zero r i).stamp ≤ hi)))
    (hres : g.start tl < lo + g.interval) :
    foldSlots zero g r c (fun acc b => op acc (m b)) u
      = ((evs.filter (fun e => lo ≤ g.start e.1 && g.start e.1 ≤ hi)).map w).foldr op u := by
  apply ring_read op u hu app zero g hn hL r evs tl hinv m w hm c (fun b => decide (lo ≤ b) && decide (b ≤ hi))
  · intro i hi' hc' _
    rw [← hc i hi']
    exact hc'
  · intro e he hp
    have hres' := event_bucket_resident app zero g hn hL r evs tl hinv e he
      (by have := of_decide_eq_true ((Bool.and_eq_true _ _).mp hp).1; omega)
    refine ⟨hres', ?_⟩
    rw [← hres', hc _ (g.idx_lt hn _), hres']
    exact hp

/-- the filter of `SlidingWindowMetric`; `hres` holds whenever `tl ≤ now` (`resident_of_le`) -/
theorem ring_window_read (W now : Nat) (hWn : W ≤ g.interval)
    (hres : g.start tl < (g.start now - W + g.L) + g.interval) :
    foldSlots zero g r (inWin g W now) (fun acc b => op acc (m b)) u
      = ((evs.filter (fun e => g.start now - W + g.L ≤ g.start e.1 && g.start e.1 ≤ g.start now)).map w).foldr op u :=
  ring_interval_read op u hu app zero g hn hL r evs tl hinv m w hm (inWin g W now) _ _
    (fun _ _ => inWin_eq g hL W now _ hWn) hres

end Read

/-- any summing loop over the slots of a `LeapArray` with a filter on stamps (C02: `count_with_time`'s `get_valid_values` is one):
it returns the total weight of the events whose bucket the filter's predicate selects -/
theorem ring_pred_sum (app : β → ε → β) (zero : β) (g : Geo) (hn : 0 < g.n) (hL : 0 < g.L)
    (r : List (Slot β)) (evs : List (Nat × ε)) (tl : Nat) (m : β → Nat) (w : ε → Nat)
    (hm0 : m zero = 0) (hmapp : ∀ b e, m (app b e) = m b + w e)
    (hinv : RingInv app zero g r evs tl) (c p : Nat → Bool)
    (h1 : ∀ i, i < g.n → c (slotAt zero r i).stamp = true → (slotAt zero r i).stamp ≠ 0 → p (slotAt zero r i).stamp = true)
    (h2 : ∀ e ∈ evs, p (g.start e.1) = true →
      (slotAt zero r (g.idx e.1)).stamp = g.start e.1 ∧ c (g.start e.1) = true) :
    (List.range g.n).foldl (fun acc i => if c (slotAt zero r i).stamp then acc + m (slotAt zero r i).val else acc) 0
      = ((evs.filter (fun e => p (g.start e.1))).map (fun e => w e.2)).sum :=
  ring_read (· + ·) 0 rfl app zero g hn hL r evs tl hinv m (fun e => w e.2)
    (bucketVal_fold app zero g (· + ·) 0 m w hm0 (fun b e => (hmapp b e).trans (Nat.add_comm _ _)) evs) c p h1 h2

theorem resident_of_le (g : Geo) (hL : 0 < g.L) {tl now W : Nat} (hnow : tl ≤ now) (hWn : W ≤ g.interval) :
    g.start tl < (g.start now - W + g.L) + g.interval := by
  have := g.start_mono hnow
  omega

/-- `SlidingWindowMetric::sum_with_time` for any additive payload (C02; C03 reads the breakers' counters with it): the loop over
`satisfied_buckets` returns the total weight of the events whose bucket lies in the window -/
theorem ring_window_sum (app : β → ε → β) (zero : β) (g : Geo) (hn : 0 < g.n) (hL : 0 < g.L)
    (r : List (Slot β)) (evs : List (Nat × ε)) (tl : Nat) (m : β → Nat) (w : ε → Nat)
    (hm0 : m zero = 0) (hmapp : ∀ b e, m (app b e) = m b + w e)
    (hinv : RingInv app zero g r evs tl) (W now : Nat)
    (hWn : W ≤ g.interval) (hguard : W ≤ g.start now)
    (hres : g.start tl < (g.start now - W + g.L) + g.interval) :
    (List.range g.n).foldl (fun acc i => if inWin g W now (slotAt zero r i).stamp then acc + m (slotAt zero r i).val else acc) 0
      = ((evs.filter (fun e => g.start now - W + g.L ≤ g.start e.1 && g.start e.1 ≤ g.start now)).map (fun e => w e.2)).sum :=
  ring_window_read (· + ·) 0 rfl app zero g hn hL r evs tl hinv m (fun e => w e.2)
    (bucketVal_fold app zero g (· + ·) 0 m w hm0 (fun b e => (hmapp b e).trans (Nat.add_comm _ _)) evs) W now hWn hres

/-- right after a write at `now` the raw `!is_deprecated` filter selects exactly the slots stamped in the last `n` buckets; the
strict `hguard` is what excludes unstamped slots (stamp 0 is not deprecated as long as `now ≤ interval`) -/
theorem validAt_eq_window_after_write (app : β → ε → β) (zero : β) (g : Geo) (hn : 0 < g.n) (hL : 0 < g.L)
    (r : List (Slot β)) (evs : List (Nat × ε)) (now : Nat) (x : ε)
    (hinv : RingInv app zero g r ((now, x) :: evs) now) (hguard : g.interval < g.start now) (i : Nat) (hi : i < g.n) :
    validAt g now (slotAt zero r i).stamp =
      (decide (g.start now - g.interval + g.L ≤ (slotAt zero r i).stamp) && decide ((slotAt zero r i).stamp ≤ g.start now)) := by
  have hnowL := g.lt_start_add hL now
  have hnowhi := g.start_le now
  rw [validAt_eq, Bool.eq_iff_iff]
  simp only [Bool.and_eq_true, decide_eq_true_eq]
  constructor
  · intro hv
    -- stamp 0 would give `now ≤ interval` by `hv`, against `interval < start now ≤ now`
    have hne : (slotAt zero r i).stamp ≠ 0 := by omega
    obtain ⟨hmod, hidx, hle⟩ := hinv.slot i hi hne
    refine ⟨?_, hle⟩
    -- the only bucket start not deprecated and below the window is `start now - interval`: the slot of `now`, which
    -- the write has just stamped `start now`
    apply Nat.le_of_not_lt
    intro hlt
    have hmod' : ((slotAt zero r i).stamp + g.interval) % g.L = 0 := by
      unfold Geo.interval
      rw [Nat.add_mul_mod_self_right]
      exact hmod
    have heq : (slotAt zero r i).stamp + g.interval = g.start now :=
      Nat.le_antisymm (g.le_of_aligned_lt_add hmod' (g.start_mod now) (by omega)) (by omega)
    have hpos : 0 < g.interval := Nat.mul_pos hn hL
    have hres : g.start now < g.start (now, x).1 + g.interval := by
      show g.start now < g.start now + g.interval
      omega
    have hnow : (slotAt zero r (g.idx now)).stamp = g.start now :=
      event_bucket_resident app zero g hn hL r _ now hinv (now, x) List.mem_cons_self hres
    rw [← g.idx_start hL, ← heq, g.idx_add_interval hL, hidx] at hnow
    omega
  · omega

/-- right after a write at `now`, `get_valid_values`' filter and `SlidingWindowMetric`'s filter of width `interval` agree on every
slot (an equation of `Bool`s) -/
theorem validAt_iff_inWin_after_write (app : β → ε → β) (zero : β) (g : Geo) (hn : 0 < g.n) (hL : 0 < g.L)
    (r : List (Slot β)) (evs : List (Nat × ε)) (now : Nat) (x : ε)
    (hinv : RingInv app zero g r ((now, x) :: evs) now) (hguard : g.interval < g.start now) (i : Nat) (hi : i < g.n) :
    validAt g now (slotAt zero r i).stamp = inWin g g.interval now (slotAt zero r i).stamp := by
  rw [inWin_eq g hL _ now _ (Nat.le_refl _)]
  exact validAt_eq_window_after_write app zero g hn hL r evs now x hinv hguard i hi

end GenericRead

end Sentinel
