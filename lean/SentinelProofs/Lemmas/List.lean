/-! List facts that the property files use and core does not have. -/
set_option autoImplicit false
namespace Sentinel

theorem sum_filter_cons {α : Type} (p : α → Bool) (f : α → Nat) (a : α) (l : List α) :
    (((a :: l).filter p).map f).sum = (if p a then f a else 0) + ((l.filter p).map f).sum := by
  rw [List.filter_cons]; split <;> simp

theorem sum_filter_mono {α : Type} (l : List α) (p q : α → Bool) (f : α → Nat) (h : ∀ x ∈ l, p x = true → q x = true) :
    ((l.filter p).map f).sum ≤ ((l.filter q).map f).sum := by
  induction l with
  | nil => simp
  | cons x xs ih =>
    have ih' := ih (fun y hy => h y (List.mem_cons_of_mem _ hy))
    rw [sum_filter_cons, sum_filter_cons]
    by_cases hp : p x = true
    · rw [if_pos hp, if_pos (h x List.mem_cons_self hp)]
      omega
    · rw [if_neg hp]
      omega

theorem find_filter_ne {α : Type} (l : List (String × α)) (k k' : String) (hne : k ≠ k') :
    (l.filter (fun p => p.1 != k)).find? (fun p => p.1 == k') = l.find? (fun p => p.1 == k') := by
  rw [List.find?_filter]
  congr 1
  funext p
  cases h : p.1 == k'
  · exact decide_eq_false (fun hc => Bool.false_ne_true hc.2)
  · exact decide_eq_true ⟨bne_iff_ne.mpr (eq_of_beq h ▸ hne.symm), rfl⟩

/-- a slot that answers with `f` of the first element its test `p` selects (`flowCheck`, `isoCheck`, `sysCheck`): whose answer it is -/
theorem find?_map_eq_some {α β : Type} {p : α → Bool} {f : α → β} {l : List α} {b : β} (h : (l.find? p).map f = some b) :
    ∃ a ∈ l, p a = true ∧ f a = b := by
  obtain ⟨a, hf, hb⟩ := Option.map_eq_some_iff.mp h
  exact ⟨a, List.mem_of_find?_eq_some hf, List.find?_some hf, hb⟩

theorem foldl_fixed {α β : Type} {f : α → β → α} {a : α} (h : ∀ x, f a x = a) (l : List β) : l.foldl f a = a := by
  induction l with
  | nil => rfl
  | cons x l ih => rw [List.foldl_cons, h, ih]

theorem length_eq_sum_ones {α : Type} (l : List α) : l.length = (l.map (fun _ => 1)).sum := by
  rw [List.map_const', List.sum_replicate_nat, Nat.mul_one]

theorem length_filter_eq_sum {α : Type} (l : List α) (p : α → Bool) :
    (l.filter p).length = (l.map (fun e => if p e then 1 else 0)).sum := by
  rw [← List.countP_eq_length_filter]
  induction l with
  | nil => rfl
  | cons x xs ih => rw [List.countP_cons, List.map_cons, List.sum_cons, ih, Nat.add_comm]

theorem le_sum_of_mem (l : List Nat) (x : Nat) (h : x ∈ l) : x ≤ l.sum := by
  induction l with
  | nil => cases h
  | cons y ys ih =>
    rw [List.sum_cons]
    rcases List.mem_cons.mp h with rfl | h'
    · exact Nat.le_add_right _ _
    · exact Nat.le_trans (ih h') (Nat.le_add_left _ _)

/-- replacing one element moves the sum by the difference; with both old and new value added so that no subtraction occurs -/
theorem sum_map_set {α : Type} (f : α → Nat) (l : List α) (i : Nat) (x : α) (h : i < l.length) :
    ((l.set i x).map f).sum + f l[i] = (l.map f).sum + f x := by
  induction l generalizing i with
  | nil => cases h
  | cons y ys ih =>
    cases i with
    | zero => simp; omega
    | succ j =>
      have := ih j (Nat.lt_of_succ_lt_succ h)
      simp at this ⊢
      omega

theorem flatMap_drop_suffix {α β : Type} (l : List α) (k : Nat) (f : α → List β) : (l.drop k).flatMap f <:+ l.flatMap f := by
  conv => rhs; rw [← List.take_append_drop k l, List.flatMap_append]
  exact List.suffix_append _ _

/-- `m` whole blocks, then nothing or a proper prefix of block `m`: a prefix of all the blocks laid end to end -/
theorem flatten_take_prefix {α} {bss : List (List α)} {m : Nat} {t : List α}
    (ht : t = [] ∨ ∃ hm : m < bss.length, t <+: bss[m] ∧ t.length < bss[m].length) : (bss.take m).flatten ++ t <+: bss.flatten := by
  rcases ht with rfl | ⟨hm, hpre, -⟩
  · rw [List.append_nil]
    conv => rhs; rw [← List.take_append_drop m bss, List.flatten_append]
    exact List.prefix_append _ _
  · conv => rhs; rw [← List.take_append_drop m bss, List.drop_eq_getElem_cons hm, List.flatten_append, List.flatten_cons]
    exact (List.prefix_append_right_inj _).mpr (hpre.trans (List.prefix_append _ _))

theorem flatten_pick {α : Type} (ps : List (List α)) (i : Nat) (a : α) (rest : List α) (h : ps[i]? = some (a :: rest)) :
    ps.flatten.Perm (a :: (ps.set i rest).flatten) := by
  induction ps generalizing i with
  | nil => simp at h
  | cons p ps ih =>
    cases i with
    | zero =>
      simp only [List.getElem?_cons_zero, Option.some.injEq] at h
      subst h
      simp
    | succ j =>
      simp only [List.getElem?_cons_succ] at h
      simp only [List.flatten_cons, List.set_cons_succ]
      have := ih j h
      exact (List.Perm.append_left p this).trans List.perm_middle

theorem perm_cons_eraseIdx {α : Type} (l : List α) (i : Nat) (c : α) (h : l[i]? = some c) : l.Perm (c :: l.eraseIdx i) := by
  obtain ⟨hi, rfl⟩ := List.getElem?_eq_some_iff.mp h
  rw [List.eraseIdx_eq_take_drop_succ]
  refine List.Perm.trans (List.Perm.of_eq ?_) List.perm_middle
  rw [List.getElem_cons_drop, List.take_append_drop]

/-- `findIdx?`, the element at `findIdx` and `find?` in one case split: definitions that match on `findIdx?` and then index the
list (`rebuildCtrls`) are put in terms of `find?` by rewriting with all three at once -/
theorem findIdx?_find? {α : Type} (p : α → Bool) (l : List α) :
    (l.findIdx? p = none ∧ l.find? p = none) ∨
    ∃ c, l.findIdx? p = some (l.findIdx p) ∧ l[l.findIdx p]? = some c ∧ l.find? p = some c := by
  rw [List.find?_eq_bind_findIdx?_getElem?]
  cases hi : l.findIdx? p with
  | none => exact Or.inl ⟨rfl, rfl⟩
  | some i =>
    obtain ⟨hlt, rfl⟩ := List.findIdx?_eq_some_iff_findIdx_eq.mp hi
    exact Or.inr ⟨_, rfl, List.getElem?_eq_getElem hlt, List.getElem?_eq_getElem hlt⟩

/-- where the last element of `init ++ [last]` falls in a split `A ++ x :: B`: it is `x` itself (and `B` is empty), or it is the
last of `B` -/
theorem snoc_eq_append_cons {α : Type} (init : List α) (last : α) (A : List α) (x : α) (B : List α) (h : init ++ [last] = A ++ x :: B) :
    (B = [] ∧ A = init ∧ x = last) ∨ ∃ B', B = B' ++ [last] ∧ init = A ++ x :: B' := by
  rcases List.eq_nil_or_concat B with rfl | ⟨L, b, rfl⟩
  · exact Or.inl ⟨rfl, (List.append_singleton_inj.mp h).1.symm, (List.append_singleton_inj.mp h).2.symm⟩
  · rw [List.concat_eq_append] at h ⊢
    rw [← List.cons_append, ← List.append_assoc] at h
    exact Or.inr ⟨L, by rw [(List.append_singleton_inj.mp h).2], (List.append_singleton_inj.mp h).1⟩

theorem takeWhile_eq_filter {α : Type} (p : α → Bool) (l : List α) (h : l.Pairwise (fun a b => p b = true → p a = true)) :
    l.takeWhile p = l.filter p := by
  induction l with
  | nil => rfl
  | cons a r ih =>
    have hp := List.pairwise_cons.mp h
    by_cases ha : p a = true
    · rw [List.takeWhile_cons_of_pos ha, List.filter_cons_of_pos ha, ih hp.2]
    · rw [List.takeWhile_cons_of_neg ha, List.filter_cons_of_neg ha, eq_comm, List.filter_eq_nil_iff]
      exact fun x hx hpx => ha (hp.1 x hx hpx)

theorem takeWhile_append_neg {α : Type} (p : α → Bool) (l₁ l₂ : List α) (h : l₁.all p = false) :
    (l₁ ++ l₂).takeWhile p = l₁.takeWhile p := by
  induction l₁ with
  | nil => simp at h
  | cons a r ih =>
    by_cases ha : p a = true
    · simp only [List.all_cons, ha, Bool.true_and] at h
      simp [ha, ih h]
    · simp [ha]

theorem takeWhile_all {α : Type} (p : α → Bool) (l : List α) (h : l.all p = true) : l.takeWhile p = l := by
  simpa using List.takeWhile_append_of_pos (l₂ := []) (List.all_eq_true.mp h)

/-! folds with an associative and commutative operation -/

section Fold
variable {γ : Type} (op : γ → γ → γ) [Std.Associative op] [Std.Commutative op]

theorem foldl_op_eq_foldr (l : List γ) (a : γ) : l.foldl op a = l.foldr op a := by
  induction l generalizing a with
  | nil => rfl
  | cons x xs ih => rw [List.foldl_cons, ih, List.foldr_cons, List.foldr_assoc, Std.Commutative.comm (op := op)]

/-- the loop `for i in l { if c i { acc = op acc (x i) } }` as a fold of the selected values -/
theorem foldl_if_eq_foldr_filter_map {ι : Type} (l : List ι) (c : ι → Bool) (x : ι → γ) (a : γ) :
    l.foldl (fun acc i => if c i then op acc (x i) else acc) a = ((l.filter c).map x).foldr op a := by
  rw [← foldl_op_eq_foldr, List.foldl_map, List.foldl_filter]

omit [Std.Associative op] [Std.Commutative op] in
theorem foldr_op_all_eq {u : γ} (hu : op u u = u) (l : List γ) (h : ∀ x ∈ l, x = u) : l.foldr op u = u := by
  induction l with
  | nil => rfl
  | cons x xs ih =>
    rw [List.foldr_cons, ih (fun y hy => h y (List.mem_cons_of_mem _ hy)), h x List.mem_cons_self, hu]

theorem foldr_op_update {ι : Type} [DecidableEq ι] (is : List ι) (hnd : is.Nodup) (k : ι) (hk : k ∈ is) (c : γ) (G : ι → γ)
    (a : γ) :
    (is.map (fun i => if k = i then op c (G i) else G i)).foldr op a = op c ((is.map G).foldr op a) := by
  induction is with
  | nil => cases hk
  | cons i is ih =>
    obtain ⟨hi, hnd'⟩ := List.nodup_cons.mp hnd
    simp only [List.map_cons, List.foldr_cons]
    by_cases hki : k = i
    · subst hki
      have : is.map (fun i => if k = i then op c (G i) else G i) = is.map G :=
        List.map_congr_left (fun j hj => if_neg (fun (h : k = j) => hi (h ▸ hj)))
      rw [this, if_pos rfl, Std.Associative.assoc (op := op)]
    · rw [if_neg hki, ih hnd' ((List.mem_cons.mp hk).resolve_left hki), ← Std.Associative.assoc (op := op),
        Std.Commutative.comm (op := op) (G i) c, Std.Associative.assoc (op := op)]

/-- `u` need not be neutral, only idempotent (`min` from 60000 has no neutral start) -/
theorem foldr_op_partition {α ι : Type} [DecidableEq ι] {u : γ} (hu : op u u = u) (is : List ι) (hnd : is.Nodup)
    (l : List α) (key : α → ι) (f : α → γ) (hkey : ∀ x ∈ l, key x ∈ is) :
    (l.map f).foldr op u = (is.map (fun i => ((l.filter (fun x => key x = i)).map f).foldr op u)).foldr op u := by
  induction l with
  | nil =>
    refine (foldr_op_all_eq op hu _ (fun x hx => ?_)).symm
    obtain ⟨_, _, rfl⟩ := List.mem_map.mp hx
    rfl
  | cons x xs ih =>
    have e : (fun i => (((x :: xs).filter (fun y => key y = i)).map f).foldr op u)
        = (fun i => if key x = i then op (f x) (((xs.filter (fun y => key y = i)).map f).foldr op u)
            else ((xs.filter (fun y => key y = i)).map f).foldr op u) := by
      funext i
      by_cases h : key x = i
      · simp [h]
      · simp [h]
    rw [e, foldr_op_update op is hnd (key x) (hkey x List.mem_cons_self), ← ih (fun y hy => hkey y (List.mem_cons_of_mem _ hy))]
    rfl
end Fold

theorem foldr_max_map_const {α : Type} (l : List α) (s : Nat) (h : l ≠ []) : (l.map (fun _ => s)).foldr max 0 = s := by
  induction l with
  | nil => exact absurd rfl h
  | cons _ l ih =>
    rw [List.map_cons, List.foldr_cons]
    cases l with
    | nil => exact Nat.max_zero s
    | cons y l => rw [ih (List.cons_ne_nil y l), Nat.max_self]

/-- a list at the first element that fails `p`: every element passes, or `l = takeWhile p l ++ x :: post` with `x` failing -/
theorem dropWhile_cases {α : Type} (p : α → Bool) (l : List α) :
    (l.dropWhile p = [] ∧ ∀ x ∈ l, p x = true) ∨
    ∃ x post, l.dropWhile p = x :: post ∧ p x = false ∧ l = l.takeWhile p ++ x :: post := by
  have hsplit := List.takeWhile_append_dropWhile (p := p) (l := l)
  have hhead := List.head?_dropWhile_not p l
  cases h : l.dropWhile p with
  | nil =>
    rw [h, List.append_nil] at hsplit
    exact Or.inl ⟨rfl, hsplit ▸ List.all_eq_true.mp List.all_takeWhile⟩
  | cons x post =>
    rw [h] at hsplit hhead
    exact Or.inr ⟨x, post, rfl, hhead, hsplit.symm⟩

/-- `dropWhile (· ≠ k)` on the keys of a list that has the key `k`: the list splits at the first element with that key -/
theorem dropWhile_ne_map {α κ : Type} [DecidableEq κ] (key : α → κ) (l : List α) (k : κ) (h : k ∈ l.map key) :
    ∃ A x B, l = A ++ x :: B ∧ key x = k ∧ (l.map key).dropWhile (· ≠ k) = (x :: B).map key := by
  rw [List.dropWhile_map]
  rcases dropWhile_cases ((fun y => decide (y ≠ k)) ∘ key) l with ⟨_, hall⟩ | ⟨x, B, hd, hx, hl⟩
  · obtain ⟨a, ha, rfl⟩ := List.mem_map.mp h
    exact absurd rfl (of_decide_eq_true (hall a ha))
  · exact ⟨_, x, B, hl, Decidable.not_not.mp (of_decide_eq_false hx), by rw [hd]⟩

/-- with distinct keys, a list splits in only one way around the element with a given key -/
theorem append_cons_unique_of_nodup_map {α κ : Type} [DecidableEq κ] (key : α → κ) (A : List α) (x : α) (B A' : List α) (x' : α)
    (B' : List α) (h : A ++ x :: B = A' ++ x' :: B') (hk : key x' = key x) (hnd : ((A ++ x :: B).map key).Nodup) :
    A = A' ∧ x = x' ∧ B = B' := by
  -- `A` and `A'` are both what stands in front of the first element with this key
  have front : ∀ (A : List α) (x : α) (B : List α), ((A ++ x :: B).map key).Nodup →
      (A ++ x :: B).takeWhile (fun y => decide (key y ≠ key x)) = A := by
    intro A x B hnd
    rw [List.map_append, List.nodup_append] at hnd
    rw [List.takeWhile_append_of_pos, List.takeWhile_cons_of_neg (by simp), List.append_nil]
    intro y hy
    exact decide_eq_true (hnd.2.2 (key y) (List.mem_map.mpr ⟨y, hy, rfl⟩) (key x) (by simp))
  have e : A = A' := by
    rw [← front A x B hnd, ← front A' x' B' (h ▸ hnd), h, hk]
  subst e
  have := List.cons.inj (List.append_cancel_left h)
  exact ⟨rfl, this.1, this.2⟩

end Sentinel
