import Sentinel.World
import SentinelProofs.Lemmas.Bucket
/-! What the recordings of a statistics node (`Node.record` and the entry-level `recordPass`, `recordBlock`, `recordComplete` built from
it) do to its in-flight count and, under the ring invariant of its global window, to its ring and ghost history. First the two
positivity facts of the global geometry (20 × 500 ms) that every use of the ring lemmas at a node needs. -/
set_option autoImplicit false
namespace Sentinel

theorem globalGeo_n : 0 < globalGeo.n := by decide
theorem globalGeo_L : 0 < globalGeo.L := by decide

theorem Node.record_conc (n : Node) (t : Nat) (e : Ev) : (n.record t e).conc = n.conc := by
  unfold Node.record
  split <;> rfl

/-- `hpos`: stamp 0 is the ring's "never used" marker, so a recording in the very first bucket is outside the ring lemmas -/
theorem Node.record_spec (n : Node) (tl t : Nat) (e : Ev)
    (h : BInv globalGeo n.ring n.hist tl) (ht : tl ≤ t) (hpos : 0 < globalGeo.start t) :
    BInv globalGeo (n.record t e).ring (n.record t e).hist t ∧ (n.record t e).hist = (t, e) :: n.hist := by
  obtain ⟨r', hw, hinv⟩ := ring_inv_record globalGeo globalGeo_n globalGeo_L n.ring n.hist tl t e h ht hpos
  unfold Node.record
  rw [hw]
  exact ⟨hinv, rfl⟩

theorem Node.recordPass_conc (n : Node) (t b : Nat) : (n.recordPass t b).conc = n.conc + 1 := by
  unfold Node.recordPass Node.addCount Node.increaseConcurrency
  rw [Node.record_conc, Node.record_conc]

theorem Node.recordBlock_conc (n : Node) (t b : Nat) : (n.recordBlock t b).conc = n.conc :=
  Node.record_conc n t _

theorem Node.recordComplete_conc (n : Node) (t b rt : Nat) : (n.recordComplete t b rt).conc = n.conc - 1 := by
  unfold Node.recordComplete Node.decreaseConcurrency Node.addCount
  -- `decreaseConcurrency` is outermost, so the term is spelled out for the two `record_conc` rewrites to find their redexes
  show (((n.record t (.add .rt rt)).record t (.add .complete b)).conc - 1 = _)
  rw [Node.record_conc, Node.record_conc]

theorem Node.recordPass_spec (n : Node) (tl t b : Nat)
    (h : BInv globalGeo n.ring n.hist tl) (ht : tl ≤ t) (hpos : 0 < globalGeo.start t) :
    BInv globalGeo (n.recordPass t b).ring (n.recordPass t b).hist t ∧
      (n.recordPass t b).hist = (t, .add .pass b) :: (t, .conc (n.conc + 1)) :: n.hist := by
  unfold Node.recordPass Node.increaseConcurrency Node.addCount
  obtain ⟨i1, e1⟩ := Node.record_spec { n with conc := n.conc + 1 } tl t (.conc (n.conc + 1)) h ht hpos
  obtain ⟨i2, e2⟩ := Node.record_spec _ t t (.add .pass b) i1 (Nat.le_refl _) hpos
  exact ⟨i2, by rw [e2, e1]⟩

theorem Node.recordBlock_spec (n : Node) (tl t b : Nat)
    (h : BInv globalGeo n.ring n.hist tl) (ht : tl ≤ t) (hpos : 0 < globalGeo.start t) :
    BInv globalGeo (n.recordBlock t b).ring (n.recordBlock t b).hist t ∧
      (n.recordBlock t b).hist = (t, .add .block b) :: n.hist :=
  Node.record_spec n tl t _ h ht hpos

theorem Node.recordComplete_spec (n : Node) (tl t b rt : Nat)
    (h : BInv globalGeo n.ring n.hist tl) (ht : tl ≤ t) (hpos : 0 < globalGeo.start t) :
    BInv globalGeo (n.recordComplete t b rt).ring (n.recordComplete t b rt).hist t ∧
      (n.recordComplete t b rt).hist = (t, .add .complete b) :: (t, .add .rt rt) :: n.hist := by
  unfold Node.recordComplete Node.addCount Node.decreaseConcurrency
  obtain ⟨i1, e1⟩ := Node.record_spec n tl t (.add .rt rt) h ht hpos
  obtain ⟨i2, e2⟩ := Node.record_spec _ t t (.add .complete b) i1 (Nat.le_refl _) hpos
  exact ⟨i2, by rw [← e1]; exact e2⟩

/-- a recording pushes its event on the ghost history, or - when the ring refuses the write - leaves the history alone -/
theorem Node.record_hist (n : Node) (t : Nat) (e : Ev) : (n.record t e).hist = n.hist ∨ (n.record t e).hist = (t, e) :: n.hist := by
  unfold Node.record
  cases n.ring.record globalGeo t e with
  | none => exact Or.inl rfl
  | some r => exact Or.inr rfl

end Sentinel
