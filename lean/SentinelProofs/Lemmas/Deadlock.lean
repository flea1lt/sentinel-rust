import Sentinel.Conc
import SentinelProofs.Lemmas.List
/-!
Lock ranking ⇒ no deadlock, for any number of threads running programs that respect the ranking.
`LInv` (each thread's set of held locks matches the lock table and its remaining program respects the ranking) holds
initially, is preserved by every step, and excludes deadlock.
-/
set_option autoImplicit false
namespace Sentinel.Conc

/-- `ok`: the locks the table gives to `t` are a list `held` from which `t`'s remaining program respects the ranking; `own` turns
`c.holder l = some t` into `t < c.progs.length`, so that `ok` applies to every holder -/
structure LInv (rank : Lock → Nat) (c : Cfg) : Prop where
  ok : ∀ t, t < c.progs.length → ∃ held : List Lock,
        (∀ l, l ∈ held ↔ c.holder l = some t) ∧ Ok rank held (c.prog t)
  own : ∀ l t, c.holder l = some t → t < c.progs.length

theorem prog_mem (c : Cfg) (t : Tid) (h : t < c.progs.length) : c.prog t ∈ c.progs := by
  simp [Cfg.prog, List.getD, h]

theorem lt_of_prog_cons {c : Cfg} {t : Tid} {a : Act} {rest : List Act} (h : c.prog t = a :: rest) :
    t < c.progs.length := by
  apply Decidable.byContradiction
  intro hn
  simp [Cfg.prog, List.getD, List.getElem?_eq_none (Nat.le_of_not_lt hn)] at h

theorem prog_set (c : Cfg) (t u : Tid) (rest : List Act) (holder : Lock → Option Tid) (ht : t < c.progs.length) :
    (Cfg.mk (c.progs.set t rest) holder).prog u = if u = t then rest else c.prog u := by
  by_cases h : u = t
  · simp [Cfg.prog, List.getD, h, ht]
  · simp [Cfg.prog, List.getD, h, Ne.symm h]

/-- a successful step in closed form: `a :: rest` is `t`'s program before it, `l` the lock that `a` acquires or releases, `new` the
entry of `l` in the lock table afterwards (the only entry that changes) -/
theorem step_some {c c' : Cfg} {t : Tid} (hs : c.step t = some c') :
    ∃ a rest l new, c.prog t = a :: rest ∧ c' = ⟨c.progs.set t rest, fun x => if x = l then new else c.holder x⟩ ∧
      ((a = .acq l ∧ c.holder l = none ∧ new = some t) ∨ (a = .rel l ∧ c.holder l = some t ∧ new = none)) := by
  unfold Cfg.step at hs
  split at hs
  · cases hs
  · next l rest hp =>
    split at hs
    · next hfree =>
      cases hs
      exact ⟨_, rest, l, some t, hp, rfl, .inl ⟨rfl, hfree, rfl⟩⟩
    · cases hs
  · next l rest hp =>
    split at hs
    · next hmine =>
      cases hs
      exact ⟨_, rest, l, none, hp, rfl, .inr ⟨rfl, hmine, rfl⟩⟩
    · cases hs

theorem step_holder_other {c c' : Cfg} {t u : Tid} (hs : c.step t = some c') (hut : u ≠ t) (x : Lock) :
    c'.holder x = some u ↔ c.holder x = some u := by
  obtain ⟨_, _, l, new, -, rfl, hcase⟩ := step_some hs
  show (if x = l then new else c.holder x) = some u ↔ _
  split
  · next hx =>
    -- the entry of `l` is `none` or `some t` before the step and after it, never `some u`
    have htu : some t ≠ some u := fun e => hut (Option.some.inj e).symm
    rcases hcase with ⟨_, h1, rfl⟩ | ⟨_, h1, rfl⟩ <;> simp only [hx, h1, htu, reduceCtorEq]
  · rfl

theorem init_LInv (rank : Lock → Nat) (progs : List (List Act)) (h : ∀ p ∈ progs, Ok rank [] p) :
    LInv rank (Cfg.init progs) :=
  ⟨fun t ht => ⟨[], by simp [Cfg.init], h _ (prog_mem (Cfg.init progs) t ht)⟩, fun l t hh => by simp [Cfg.init] at hh⟩

theorem step_LInv (rank : Lock → Nat) (c c' : Cfg) (t : Tid) (hinv : LInv rank c) (hs : c.step t = some c') :
    LInv rank c' := by
  obtain ⟨a, rest, l, new, hp, rfl, hcase⟩ := step_some hs
  have hother := fun u (hut : u ≠ t) => step_holder_other hs hut
  have ht := lt_of_prog_cons hp
  obtain ⟨held, hheld, hok⟩ := hinv.ok t ht
  rw [hp] at hok
  constructor
  · intro u hu
    rw [List.length_set] at hu
    rw [prog_set c t u rest _ ht]
    by_cases hut : u = t
    · subst hut
      simp only [if_true]
      rcases hcase with ⟨rfl, _, rfl⟩ | ⟨rfl, _, rfl⟩
      · -- acquired: `t` holds `l` and what it held
        refine ⟨l :: held, fun x => ?_, hok.2.2⟩
        by_cases hx : x = l
        · rw [hx, if_pos rfl]
          exact ⟨fun _ => rfl, fun _ => List.mem_cons_self⟩
        · rw [if_neg hx, List.mem_cons, ← hheld x]
          exact ⟨fun h => h.resolve_left hx, .inr⟩
      · -- released: `t` holds what it held except `l`
        refine ⟨held.filter (· ≠ l), fun x => ?_, hok.2⟩
        rw [List.mem_filter, decide_eq_true_eq]
        by_cases hx : x = l
        · rw [hx, if_pos rfl]
          exact ⟨fun h => absurd rfl h.2, nofun⟩
        · rw [if_neg hx, ← hheld x]
          exact ⟨fun h => h.1, fun h => ⟨h, hx⟩⟩
    · obtain ⟨held', hheld', hok'⟩ := hinv.ok u hu
      simp only [hut, if_false]
      exact ⟨held', fun x => (hheld' x).trans (hother u hut x).symm, hok'⟩
  · intro x u hh
    rw [List.length_set]
    by_cases hut : u = t
    · exact hut ▸ ht
    · exact hinv.own x u ((hother u hut x).mp hh)

theorem reachable_LInv (rank : Lock → Nat) (progs : List (List Act)) (h : ∀ p ∈ progs, Ok rank [] p) (c : Cfg)
    (hr : Reachable progs c) : LInv rank c := by
  induction hr with
  | init => exact init_LInv rank progs h
  | step c c' t _ hs ih => exact step_LInv rank c c' t ih hs

theorem blocked_waits (rank : Lock → Nat) (c : Cfg) (hinv : LInv rank c) (t : Tid)
    (hu : c.unfinished t) (hb : c.step t = none) :
    ∃ l rest t', c.prog t = Act.acq l :: rest ∧ c.holder l = some t' := by
  obtain ⟨held, hheld, hok⟩ := hinv.ok t hu.1
  unfold Cfg.step at hb
  split at hb
  · next hp => exact absurd hp hu.2
  · next l rest hp =>
    cases hx : c.holder l with
    | none => simp [hx] at hb
    | some t' => exact ⟨l, rest, t', hp, hx⟩
  · next l rest hp =>
    rw [hp] at hok
    simp [(hheld l).mp hok.1] at hb

theorem holder_unfinished (rank : Lock → Nat) (c : Cfg) (hinv : LInv rank c) (l : Lock) (t : Tid)
    (h : c.holder l = some t) : c.unfinished t := by
  have hlt := hinv.own l t h
  obtain ⟨held, hheld, hok⟩ := hinv.ok t hlt
  refine ⟨hlt, fun he => ?_⟩
  rw [he] at hok
  have : l ∈ held := (hheld l).mpr h
  rw [show held = [] from hok] at this
  cases this

theorem wait_rank (rank : Lock → Nat) (c : Cfg) (hinv : LInv rank c) (t' : Tid) (l l' : Lock)
    (rest : List Act) (hh : c.holder l = some t') (hp : c.prog t' = Act.acq l' :: rest) :
    rank l < rank l' := by
  obtain ⟨held, hheld, hok⟩ := hinv.ok t' (hinv.own l t' hh)
  rw [hp] at hok
  exact hok.1 l ((hheld l).mpr hh)

theorem no_deadlock (rank : Lock → Nat) (c : Cfg) (hinv : LInv rank c) : ¬ Deadlocked c := by
  intro ⟨⟨t0, hu0⟩, hall⟩
  -- following the holders: whoever is waited for is unfinished, hence blocked, hence waiting for a lock of larger rank
  have chain : ∀ k : Nat, ∃ t l rest t', c.prog t = Act.acq l :: rest ∧ c.holder l = some t' ∧ k ≤ rank l := by
    intro k
    induction k with
    | zero =>
      obtain ⟨l, rest, t', hp, hh⟩ := blocked_waits rank c hinv t0 hu0 (hall t0 hu0)
      exact ⟨t0, l, rest, t', hp, hh, Nat.zero_le _⟩
    | succ k ih =>
      obtain ⟨_, l, _, t', _, hh, hk⟩ := ih
      have hu' := holder_unfinished rank c hinv l t' hh
      obtain ⟨l', rest', t'', hp', hh'⟩ := blocked_waits rank c hinv t' hu' (hall t' hu')
      exact ⟨t', l', rest', t'', hp', hh', Nat.lt_of_le_of_lt hk (wait_rank rank c hinv t' l l' rest' hh hp')⟩
  -- but every awaited rank is a summand of the sum, over the threads, of the rank each is about to request
  let f : List Act → Nat := fun p => match p with | Act.acq l :: _ => rank l | _ => 0
  obtain ⟨t, l, rest, _, hp, _, hk⟩ := chain ((c.progs.map f).sum + 1)
  have : f (c.prog t) ≤ (c.progs.map f).sum :=
    le_sum_of_mem _ _ (List.mem_map_of_mem (prog_mem c t (lt_of_prog_cons hp)))
  rw [hp] at this
  exact Nat.not_succ_le_self _ (Nat.le_trans hk this)

end Sentinel.Conc
