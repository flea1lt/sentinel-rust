import SentinelProofs.Lemmas.MetricLog.Writer
import SentinelProofs.Lemmas.MetricLog.CacheInv
/-!
A `write` keeps the writer's invariant `WInv`, and every crash prefix of its action stream leaves a directory on which the searches
still work. The two are proved together: a `write` is a composition of phases (roll-over, index entry, lines, roll-over), each a
`Moves`, which carries the invariant afterwards and `Crashed` for every crash prefix. A crash prefix of appends to one file is one
append of a prefix of their bytes: it leaves the last file with torn tails (`AFile.withTails`), and such a state is `CrashOK`.
-/
set_option autoImplicit false
namespace Sentinel.MLog
open Sentinel

theorem dayOfSec_mono {a b : Nat} (h : a ≤ b) : dayOfSec a ≤ dayOfSec b := by
  unfold dayOfSec; exact Nat.div_le_div_right h

/-- the same file with whatever torn bytes it ends in -/
def AFile.withTails (f : AFile) (t it : Bytes) : AFile := { f with tail := t, idxTail := it }

/-- `init ++ [last]`, held with `last` ending in the torn bytes `t` (log) and `it` (index) -/
structure CrashShape (L : Nat) (init : List AFile) (last : AFile) (t it : Bytes) (B N : Nat) : Prop where
  aok : AOk L (init ++ [last]) B N
  tail : 10 ∉ t
  idxTail : it.length < 16

theorem flatMap_withTails {β} (init : List AFile) (last : AFile) (t it : Bytes) (φ : List Group → List β) :
    (init ++ [last.withTails t it]).flatMap (fun f => φ f.groups) = (init ++ [last]).flatMap (fun f => φ f.groups) := by
  simp [AFile.withTails]

theorem WF.withTails {init : List AFile} {last : AFile} (h : WF (init ++ [last])) {t it : Bytes} (ht : 10 ∉ t) (hit : it.length < 16) :
    WF (init ++ [last.withTails t it]) := by
  -- a clause about every file: the files of `init` have it from `h`, the last file has to be looked at
  have hall : ∀ {P : AFile → Prop}, (∀ f ∈ init ++ [last], P f) → P (last.withTails t it) →
      ∀ f ∈ init ++ [last.withTails t it], P f := by
    intro P h1 h2
    simp only [List.forall_mem_append, List.forall_mem_singleton] at h1 ⊢
    exact ⟨h1.1, h2⟩
  have hlast : last ∈ init ++ [last] := List.mem_append_right _ (List.mem_singleton_self _)
  exact {
    sorted := flatMap_withTails init last t it (fun gs => gs.map (·.1)) ▸ h.sorted
    secs := hall h.secs (h.secs last hlast)
    good := hall h.good (h.good last hlast)
    small := hall h.small (h.small last hlast)
    tails := hall h.tails ⟨ht, hit⟩
    cap := flatMap_withTails init last t it groupsItems ▸ h.cap }

theorem withTails_self (f : AFile) : f.withTails f.tail f.idxTail = f := rfl

/-- a crash prefix of appends to one file is one append of a prefix of the bytes: `m` whole blocks, then `t`, nothing or a proper prefix
of the next block (the disjunction `flatten_take_prefix` takes). The lines need `m` and that `t` lies within one line; the index entry
needs only that a prefix of the bytes is there -/
theorem crashPrefix_appends (fs : FS) (i : Bool) (f : FileId) (bss : List Bytes) (k j : Nat) :
    ∃ m t, fs.applyAll (crashPrefix (bss.map (Act.append i f)) k j) = fs.applyAll [Act.append i f ((bss.take m).flatten ++ t)] ∧
      m ≤ bss.length ∧ (t = [] ∨ ∃ hm : m < bss.length, t <+: bss[m] ∧ t.length < bss[m].length) := by
  unfold crashPrefix
  rw [← List.map_take, applyAll_append]
  by_cases hk : k < bss.length
  · rw [List.getElem?_map, List.getElem?_eq_getElem hk]
    simp only [Option.map_some, Act.cut]
    by_cases hj : j = 0
    · refine ⟨k, [], ?_, Nat.le_of_lt hk, Or.inl rfl⟩
      rw [if_pos hj, List.append_nil]
      exact applyAll_appends fs i f _
    · rw [if_neg hj, applyAll_appends_snoc]
      by_cases hjl : j < bss[k].length
      · have hshort : (bss[k].take j).length < bss[k].length := by
          rw [List.length_take]
          omega
        exact ⟨k, bss[k].take j, rfl, Nat.le_of_lt hk, Or.inr ⟨hk, List.take_prefix _ _, hshort⟩⟩
      · refine ⟨k + 1, [], ?_, hk, Or.inl rfl⟩
        have hfull : bss[k].take j = bss[k] := List.take_of_length_le (by omega)
        rw [hfull, List.take_add_one, List.getElem?_eq_getElem hk, Option.toList_some, List.flatten_append, List.flatten_singleton,
          List.append_nil]
  · refine ⟨bss.length, [], ?_, Nat.le_refl _, Or.inl rfl⟩
    rw [List.getElem?_eq_none (by simpa using hk), List.take_of_length_le (by omega), List.take_length, List.append_nil]
    exact applyAll_appends fs i f _

/-- any prefix of the two index appends leaves a torn entry, or is the whole entry -/
theorem entry_prefix_state (fs : FS) (init : List AFile) (last : AFile) (hrep : RepL fs (init ++ [last]))
    (hids : IdsSorted ((init ++ [last]).map (·.id))) (hlive : last.tail = [] ∧ last.idxTail = []) (sec k j : Nat) :
    (∃ it : Bytes, it.length < 16 ∧
      RepL (fs.applyAll (crashPrefix [Act.append true last.id (be64 sec), Act.append true last.id (be64 last.log.length)] k j))
        (init ++ [last.withTails [] it])) ∨
    fs.applyAll (crashPrefix [Act.append true last.id (be64 sec), Act.append true last.id (be64 last.log.length)] k j) =
      fs.applyAll [Act.append true last.id (be64 sec), Act.append true last.id (be64 last.log.length)] := by
  have hmap : [Act.append true last.id (be64 sec), Act.append true last.id (be64 last.log.length)] =
      [be64 sec, be64 last.log.length].map (Act.append true last.id) := rfl
  obtain ⟨m, t, hst, -, ht⟩ := crashPrefix_appends fs true last.id [be64 sec, be64 last.log.length] k j
  have hpre := flatten_take_prefix ht
  rw [hmap, hst, applyAll_appends]
  -- what is on disk is one append of a prefix `p` of the sixteen bytes
  generalize ([be64 sec, be64 last.log.length].take m).flatten ++ t = p at hpre ⊢
  by_cases h16 : p.length < 16
  · exact Or.inl ⟨p, h16, repL_append hrep hids true p rfl (by simp [AFile.log, AFile.withTails, hlive.1])
      (by simp [AFile.idx, AFile.withTails, hlive.2])⟩
  · have hlen : [be64 sec, be64 last.log.length].flatten.length ≤ p.length := by
      simp only [List.flatten_cons, List.flatten_nil, List.length_append, List.length_nil, be64_length]
      omega
    rw [hpre.eq_of_length_le hlen]
    exact Or.inr rfl

/-- any prefix of the line appends leaves some complete lines and a torn one -/
theorem lines_prefix_state (fs : FS) (init : List AFile) (last : AFile) (gi : List Group) (gl : Group) (hrep : RepL fs (init ++ [last]))
    (hids : IdsSorted ((init ++ [last]).map (·.id))) (hg : last.groups = gi ++ [gl]) (hlive : last.tail = [])
    (items : List MItem) (hgood : ∀ it ∈ items, GoodItem it) (k j : Nat) :
    ∃ m t, m ≤ items.length ∧ 10 ∉ t ∧
      RepL (fs.applyAll (crashPrefix (items.map (fun it => Act.append false last.id (lineBytes it))) k j))
        (init ++ [({ last with groups := gi ++ [(gl.1, gl.2 ++ items.take m)] } : AFile).withTails t last.idxTail]) := by
  obtain ⟨m, t, hst, hm, ht⟩ := crashPrefix_appends fs false last.id (items.map lineBytes) k j
  rw [List.length_map] at hm
  refine ⟨m, t, hm, ?_, ?_⟩
  · rcases ht with rfl | ⟨hm', hpre, hlen⟩
    · simp
    · -- a proper prefix of a line lies within the line without its terminator
      simp only [List.getElem_map, lineBytes_eq, List.length_append, List.length_singleton] at hpre hlen
      have hpre' := List.prefix_of_prefix_length_le hpre (List.prefix_append _ _) (Nat.le_of_lt_succ hlen)
      exact fun h10 => lineOf_no_nl _ (hgood _ (List.getElem_mem _)) (hpre'.subset h10)
  · rw [map_append_lineBytes, hst]
    refine repL_append hrep hids false _ rfl ?_ (by simp [AFile.idx, AFile.withTails, hg, idxOf_snoc])
    have e : (gi ++ [(gl.1, gl.2)]) = gi ++ [gl] := rfl
    simp [AFile.log, AFile.withTails, groupsBytes_extend, hg, hlive, e, List.flatMap_def, List.map_take]

/-- the directory `fs'` is a crash-shaped, well-formed one holding exactly the items `held` in complete lines. `dropLast`: only the
file being written can end in a torn line -/
def CrashOK (fs' : FS) (held : List MItem) : Prop :=
  ∃ al', Rep fs' al' ∧ WF al' ∧ (al'.flatMap AFile.items).length + 1 < MAX_ITEM_AMOUNT ∧ (∀ f ∈ al'.dropLast, f.tail = []) ∧
    al'.flatMap AFile.items = held

/-- `CrashOK`, of a suffix of `H` followed by the first few of `new` (retention removes whole oldest files), provided the ghost
counters fit their types. The bounds are premises inside the definition, because a `Moves` must state what a crash leaves before
anything is known about `L`, `B`, `N`; `crash_in_write` supplies them at the end -/
def Crashed (L B N : Nat) (H new : List MItem) (fs' : FS) : Prop :=
  L < 18446744073709551616 → B < 18446744073709551616 → N + 1 < MAX_ITEM_AMOUNT →
    ∃ p held, p <+: new ∧ held <:+ H ++ p ∧ CrashOK fs' held

theorem crashed_of_aok {fs' : FS} {al' : List AFile} {L B N : Nat} {H new p : List MItem} (hrep : Rep fs' al') (h : AOk L al' B N)
    (hp : p <+: new) (hs : al'.flatMap AFile.items <:+ H ++ p) : Crashed L B N H new fs' :=
  fun hL hB hN =>
    have hitems := h.items
    have hcap : (al'.flatMap AFile.items).length + 1 < MAX_ITEM_AMOUNT := by omega
    ⟨p, _, hp, hs, al', hrep, h.wf hB (by omega) hL, hcap, fun f hf => (h.live f (List.dropLast_subset _ hf)).1, rfl⟩

theorem crashed_of_shape {fs' : FS} {init : List AFile} {last : AFile} {t it : Bytes} {L B N : Nat} {H new p : List MItem}
    (hrepL : RepL fs' (init ++ [last.withTails t it])) (hs : IdsSorted ((init ++ [last]).map (·.id)))
    (h : CrashShape L init last t it B N) (hp : p <+: new) (hsuf : (init ++ [last]).flatMap AFile.items <:+ H ++ p) :
    Crashed L B N H new fs' := by
  intro hL hB hN
  have hitems : (init ++ [last.withTails t it]).flatMap AFile.items = (init ++ [last]).flatMap AFile.items :=
    flatMap_withTails init last t it groupsItems
  refine ⟨p, _, hp, hsuf, init ++ [last.withTails t it], rep_of_repL hrepL (by simpa [AFile.withTails] using hs),
    (h.aok.wf hB (by omega) hL).withTails h.tail h.idxTail, ?_, ?_, hitems⟩
  · rw [hitems]
    have := h.aok.items
    omega
  · rw [List.dropLast_concat]
    exact fun f hf => (h.aok.live f (List.mem_append_left _ hf)).1

theorem Crashed.mono {L B N L' B' N' : Nat} {H new : List MItem} {s : FS} (h : Crashed L B N H new s) (hL : L ≤ L') (hB : B ≤ B')
    (hN : N ≤ N') : Crashed L' B' N' H new s :=
  fun _ _ _ => h (by omega) (by omega) (by omega)

/-- `acts` take the writer from `(w, fs, al)` to `(w', fs.applyAll acts, al')` under the invariant. `held`: the log gains `added` and
loses only whole oldest files (what the end results say of `runWrites`). `cache`: a searcher's cached position stays good; it rides
along because it composes like the rest and `session_inv` (C19) needs it. `crash`: dying on the way leaves a suffix of what `al` held
followed by the first few of `added`; each move speaks of its own `al` and `added`, and `Moves.trans` shifts both -/
structure Moves (w : Writer) (fs : FS) (al : List AFile) (acts : List Act) (w' : Writer) (al' : List AFile) (B' N' : Nat)
    (added : List MItem) : Prop where
  inv : WInv w' (fs.applyAll acts) al' B' N'
  held : al'.flatMap AFile.items <:+ al.flatMap AFile.items ++ added
  cache : ∀ c, CacheInv al c → CacheInv al' c
  crash : ∀ k j, Crashed w'.latest B' N' (al.flatMap AFile.items) added (fs.applyAll (crashPrefix acts k j))

theorem Moves.nil {w : Writer} {fs : FS} {al : List AFile} {B N : Nat} (h : WInv w fs al B N) : Moves w fs al [] w al B N [] :=
  { inv := h
    held := by rw [List.append_nil]; exact List.suffix_refl _
    cache := fun _ hc => hc
    crash := fun k j => by
      rw [crashPrefix_nil]
      exact crashed_of_aok (rep_of_repL h.rep h.ids) h.aok (List.prefix_refl []) (by simp) }

/-- a crash in `a` is a crash of the first move, whose `add₁` begins `add₁ ++ add₂`; a crash in `b` is one of the second move, after
`al₁`, which holds a suffix of what `al` held and `add₁` -/
theorem Moves.trans {w w₁ w₂ : Writer} {fs : FS} {al al₁ al₂ : List AFile} {a b : List Act} {B₁ N₁ B₂ N₂ : Nat} {add₁ add₂ : List MItem}
    (h₁ : Moves w fs al a w₁ al₁ B₁ N₁ add₁) (h₂ : Moves w₁ (fs.applyAll a) al₁ b w₂ al₂ B₂ N₂ add₂)
    (hL : w₁.latest ≤ w₂.latest) (hB : B₁ ≤ B₂) (hN : N₁ ≤ N₂) :
    Moves w fs al (a ++ b) w₂ al₂ B₂ N₂ (add₁ ++ add₂) :=
  { inv := by rw [applyAll_append]; exact h₂.inv
    held := by rw [← List.append_assoc]; exact h₂.held.trans (List.suffix_append_self_iff.mpr h₁.held)
    cache := fun c hc => h₂.cache c (h₁.cache c hc)
    crash := crash_append fs a b _
      (fun k j hL' hB' hN' =>
        have ⟨p, held, hp, hs, hok⟩ := (h₁.crash k j).mono hL hB hN hL' hB' hN'
        ⟨p, held, hp.trans (List.prefix_append _ _), hs, hok⟩)
      (fun k j hL' hB' hN' =>
        have ⟨p, held, hp, hs, hok⟩ := h₂.crash k j hL' hB' hN'
        ⟨add₁ ++ p, held, (List.prefix_append_right_inj _).mpr hp,
          List.append_assoc .. ▸ hs.trans (List.suffix_append_self_iff.mpr h₁.held), hok⟩) }

/-- a move that replaces the last file by one of the same name whose group seconds continue with `ext`: `hrep`, `haok`, `hcrash`
are what the appends at hand must supply; ids, `cur`, `days`, `lastSec`, `count`, `held` and `cache` follow from `hid`, `hsecs`, `hg`, `hgl`,
`hitems`, `hL` -/
theorem Moves.modLast {w : Writer} {fs : FS} {init : List AFile} {last : AFile} {B N : Nat} (h : WInv w fs (init ++ [last]) B N)
    {acts : List Act} {L' : Nat} {last' : AFile} {B' N' : Nat} {added : List MItem}
    (hrep : RepL (fs.applyAll acts) (init ++ [last'])) (haok : AOk L' (init ++ [last']) B' N') (hid : last'.id = last.id)
    (ext : List Nat) (hsecs : last'.groups.map (·.1) = last.groups.map (·.1) ++ ext)
    {gi : List Group} {gl : Group} (hg : last'.groups = gi ++ [gl]) (hgl : gl.1 = L') (hitems : last'.items = last.items ++ added)
    (hL : w.latest ≤ L')
    (hcrash : ∀ k j, Crashed L' B' N' ((init ++ [last]).flatMap AFile.items) added (fs.applyAll (crashPrefix acts k j))) :
    Moves w fs (init ++ [last]) acts { w with latest := L' } (init ++ [last']) B' N' added := by
  have hids : (init ++ [last']).map (·.id) = (init ++ [last]).map (·.id) := by simp [hid]
  have hdays' : ∀ f ∈ init ++ [last'], f.id.day ≤ dayOfSec L' := by
    have := h.days
    simp only [List.forall_mem_append, List.forall_mem_singleton, hid] at this ⊢
    exact ⟨fun f hf => Nat.le_trans (this.1 f hf) (dayOfSec_mono hL), Nat.le_trans this.2 (dayOfSec_mono hL)⟩
  have hlastSec : ∀ init₂ last₂, init ++ [last'] = init₂ ++ [last₂] → ∀ gi₂ gl₂, last₂.groups = gi₂ ++ [gl₂] → gl₂.1 = L' := by
    intro init₂ last₂ hal gi₂ gl₂ hg₂
    rw [← (List.append_singleton_inj.mp hal).2, hg] at hg₂
    rw [← (List.append_singleton_inj.mp hg₂).2]
    exact hgl
  have hcount : (init ++ [last']).length ≤ w.maxFiles ∧ 0 < w.maxFiles := by
    have := h.count
    simp only [List.length_append, List.length_singleton] at this ⊢
    exact this
  have hheld : (init ++ [last']).flatMap AFile.items <:+ (init ++ [last]).flatMap AFile.items ++ added := by
    simp only [List.flatMap_append, List.flatMap_cons, List.flatMap_nil, List.append_nil, hitems, List.append_assoc]
    exact List.suffix_refl _
  exact {
    inv := {
      rep := hrep
      ids := hids ▸ h.ids
      cur := ⟨init, last', rfl, hid ▸ h.cur_last⟩
      days := hdays'
      aok := haok
      lastSec := hlastSec
      count := hcount }
    held := hheld
    -- `CacheInv.modLast` takes the extension as an existential
    cache := fun c hc => hc.modLast hid ⟨ext, hsecs⟩
    crash := hcrash }

/-- a roll-over as a move: a crash in it leaves some of the oldest files removed and the new file there or not -/
theorem roll_moves {w : Writer} {fs : FS} {al : List AFile} {B N : Nat} (h : WInv w fs al B N) (ts : Nat) (hsec : w.latest ≤ ts / 1000) :
    Moves w fs al (rollActs fs w.maxFiles ts).2 { w with latest := ts / 1000, cur := some (rollActs fs w.maxFiles ts).1 }
      (al.drop (dropCount al.length w.maxFiles) ++ [AFile.new (rollActs fs w.maxFiles ts).1]) B N [] := by
  have hd : ∀ f ∈ al, f.id.day ≤ dayOfSec (ts / 1000) := fun f hf => Nat.le_trans (h.days f hf) (dayOfSec_mono hsec)
  have haok : AOk (ts / 1000) al B N := h.aok.mono hsec (Nat.le_refl _) (Nat.le_refl _)
  have hsuf : ∀ q, (al.drop q).flatMap AFile.items <:+ al.flatMap AFile.items ++ [] := fun q =>
    List.append_nil _ ▸ flatMap_drop_suffix al q _
  obtain ⟨init, last, hal, -⟩ := h.cur
  refine ⟨roll_inv { w with latest := ts / 1000, cur := some (rollActs fs w.maxFiles ts).1 } ts h.rep h.ids hd haok h.count.2 rfl rfl,
    items_snoc_new (al.drop _) _ ▸ hsuf _, ?_, fun k j => ?_⟩
  · have hne : al ≠ [] := hal ▸ List.append_ne_nil_of_right_ne_nil _ (List.cons_ne_nil _ _)
    -- `(rollActs fs w.maxFiles ts).1` is by definition this `nextFileId`
    exact fun c hc => hc.dropNew h.ids hne _ _ (nextFileId_day_gt fs al h.rep h.ids _ hd).2
  · obtain ⟨al', q, hrep, rfl | rfl⟩ := roll_prefix_state fs al h.rep h.ids w.maxFiles ts hd k j
    · exact crashed_of_aok hrep (haok.drop q) (List.prefix_refl []) (hsuf q)
    · exact crashed_of_aok hrep ((haok.drop q).snoc_new _) (List.prefix_refl []) (items_snoc_new (al.drop q) _ ▸ hsuf q)

/-- the index entry as a move. The `if` is `writeTail`'s own conditional, so that `writeTail_moves` finds this action list in the
unfolded `writeTail`; `last'.groups ≠ []` is what `lines_moves` asks for (the lines go into the last group) -/
theorem entry_moves {w : Writer} {fs : FS} {init : List AFile} {last : AFile} {B N : Nat} (h : WInv w fs (init ++ [last]) B N) (sec : Nat)
    (hsec : w.latest ≤ sec) :
    ∃ last', last'.id = last.id ∧ last'.groups ≠ [] ∧
      Moves w fs (init ++ [last])
        (if sec > w.latest ∨ last.log.length = 0 then [Act.append true last.id (be64 sec), Act.append true last.id (be64 last.log.length)] else [])
        { w with latest := sec } (init ++ [last']) B N [] := by
  have hlive := h.aok.live last (by simp)
  by_cases hc : sec > w.latest ∨ last.log.length = 0
  · rw [if_pos hc]
    have hfull := repL_entry h.rep h.ids hlive sec
    refine ⟨{ last with groups := last.groups ++ [(sec, [])] }, rfl, by simp, ?_⟩
    refine Moves.modLast h hfull (h.aok.entry sec hsec) rfl (ext := [sec]) (hsecs := by simp) (hg := rfl) (hgl := rfl)
      (hitems := by rw [AFile.items_entry, List.append_nil]) (hL := hsec) (hcrash := fun k j => ?_)
    rcases entry_prefix_state fs init last h.rep h.ids hlive sec k j with ⟨it, hit, hrl⟩ | hall
    · have hshape : CrashShape sec init last [] it B N :=
        { aok := h.aok.mono hsec (Nat.le_refl _) (Nat.le_refl _), tail := List.not_mem_nil, idxTail := hit }
      exact crashed_of_shape hrl h.ids hshape (List.prefix_refl []) (by simp)
    · rw [hall]
      exact crashed_of_aok (rep_of_repL hfull (by simpa using h.ids)) (h.aok.entry sec hsec) (List.prefix_refl [])
        (by simp [AFile.items_entry])
  · rw [if_neg hc]
    obtain rfl : sec = w.latest := by omega
    refine ⟨last, rfl, fun e => hc (.inr ?_), Moves.nil h⟩
    simp [AFile.log, e, hlive.1, groupsBytes]

/-- the lines as a move; a crash leaves some of them complete and a torn one -/
theorem lines_moves {w : Writer} {fs : FS} {init : List AFile} {last : AFile} {B N : Nat} (h : WInv w fs (init ++ [last]) B N)
    (hne : last.groups ≠ []) (items : List MItem) (hgood : ∀ it ∈ items, GoodItem it) (hsec : ∀ it ∈ items, secOf it = w.latest) :
    ∃ last', last'.id = last.id ∧
      Moves w fs (init ++ [last]) (items.map (fun it => Act.append false last.id (lineBytes it))) w (init ++ [last'])
        (B + (items.flatMap lineBytes).length) (N + items.length) items := by
  obtain ⟨gi, gl, hg⟩ : ∃ gi gl, last.groups = gi ++ [gl] := ⟨_, _, (List.dropLast_concat_getLast hne).symm⟩
  have hgl := h.lastSec init last rfl gi gl hg
  have hlive := h.aok.live last (by simp)
  have hsec' : ∀ it ∈ items, secOf it = gl.1 := fun it hit => (hsec it hit).trans hgl.symm
  refine ⟨{ last with groups := gi ++ [(gl.1, gl.2 ++ items)] }, rfl, ?_⟩
  refine Moves.modLast h (repL_lines h.rep h.ids hg hlive.1 items) (h.aok.lines hg items hgood hsec' (List.prefix_refl _)) rfl
    (ext := []) (hsecs := by simp [hg]) (hg := rfl) (hgl := hgl) (hitems := AFile.items_lines hg items) (hL := Nat.le_refl _)
    (hcrash := fun k j => ?_)
  obtain ⟨m, t, _, ht, hrl⟩ := lines_prefix_state fs init last gi gl h.rep h.ids hg hlive.1 items hgood k j
  have hshape : CrashShape w.latest init { last with groups := gi ++ [(gl.1, gl.2 ++ items.take m)] } t last.idxTail
      (B + (items.flatMap lineBytes).length) (N + items.length) :=
    { aok := h.aok.lines hg items hgood hsec' (List.take_prefix m _), tail := ht, idxTail := hlive.2 ▸ Nat.zero_lt_succ 15 }
  exact crashed_of_shape hrl (by simpa using h.ids) hshape (List.take_prefix m items) (by simp [AFile.items_lines hg])

/-- on a file without lines the index entry is written whatever the writer's last second was. `writeTail` overwrites `cur`, so any
`x` will do; the use has the writer as `roll_moves` leaves it -/
theorem writeTail_fresh (w : Writer) (fs : FS) (c : FileId) (ts : Nat) (items : List MItem) (x : Option FileId)
    (hpos : ((fs.logs.get? c).getD []).length = 0) (hsec : w.latest ≤ ts / 1000) :
    w.writeTail fs c ts items = ({ w with latest := ts / 1000, cur := x } : Writer).writeTail fs c ts items := by
  simp only [Writer.writeTail, hpos, or_true, if_true, Nat.max_eq_right hsec, Nat.max_self]

theorem writeTail_moves {w : Writer} {fs : FS} {init : List AFile} {last : AFile} {B N : Nat} (h : WInv w fs (init ++ [last]) B N)
    (ts : Nat) (items : List MItem) (hsec : w.latest ≤ ts / 1000) (hgood : ∀ it ∈ items, GoodItem { it with ts := ts }) :
    ∃ al', Moves w fs (init ++ [last]) (w.writeTail fs last.id ts items).2 (w.writeTail fs last.id ts items).1 al'
      (B + ((stamp ts items).flatMap lineBytes).length) (N + items.length) (stamp ts items) := by
  have hpos : ((fs.logs.get? last.id).getD []).length = last.log.length := by
    rw [get?_last_log fs init last h.rep h.ids]; rfl
  have hgood' : ∀ it ∈ stamp ts items, GoodItem it := by
    intro it hit
    obtain ⟨x, hx, rfl⟩ := List.mem_map.mp hit
    exact hgood x hx
  have hsec' : ∀ it ∈ stamp ts items, secOf it = ts / 1000 := by
    intro it hit
    obtain ⟨x, -, rfl⟩ := List.mem_map.mp hit
    rfl
  -- `lines_moves` counts the items it is given: `(stamp ts items).length`
  rw [← show (stamp ts items).length = items.length from List.length_map _]
  -- the phases first, so that `writeTail` can be unfolded to match them
  obtain ⟨last2, hid2, hne2, hm2⟩ := entry_moves h (ts / 1000) hsec
  obtain ⟨last3, hid3, hm3⟩ := lines_moves hm2.inv hne2 (stamp ts items) hgood' hsec'
  have hm23 := hm2.trans hm3 (Nat.le_refl _) (Nat.le_add_right _ _) (Nat.le_add_right _ _)
  unfold Writer.writeTail
  simp only [hpos]
  have hacts3 : items.map (fun it => Act.append false last.id (lineBytes { it with ts := ts })) =
      (stamp ts items).map (fun it => Act.append false last2.id (lineBytes it)) := by
    simp [stamp, List.map_map, hid2]
  rw [hacts3, ← applyAll_append, Nat.max_eq_right hsec]
  -- the conditional must stay textually the one of `entry_moves` (after `hpos`), or nothing is generalised
  generalize (if ts / 1000 > w.latest ∨ last.log.length = 0 then
      [Act.append true last.id (be64 (ts / 1000)), Act.append true last.id (be64 last.log.length)] else []) ++
      (stamp ts items).map (fun it => Act.append false last2.id (lineBytes it)) = acts23 at hm23 ⊢
  rw [List.nil_append] at hm23
  split
  · have hm4 := hm23.trans (roll_moves hm23.inv ts (Nat.le_refl _)) (Nat.le_refl _) (Nat.le_refl _) (Nat.le_refl _)
    rw [List.append_nil] at hm4
    exact ⟨_, hm4⟩
  · rw [List.append_nil, ← h.cur_last]
    exact ⟨_, hm23⟩

theorem write_moves (w : Writer) (fs : FS) (al : List AFile) (B N ts : Nat) (items : List MItem) (h : WInv w fs al B N)
    (hgood : ∀ it ∈ items, GoodItem { it with ts := ts }) :
    ∃ al', Moves w fs al (w.write fs ts items).2.1 (w.write fs ts items).1 al'
      (B + ((stamp ts items).flatMap lineBytes).length) (N + items.length) (accepted w ts items) := by
  -- the refusals (no items, `ts = 0`, a second before `latest`) do nothing
  have hstay : ∃ al', Moves w fs al [] w al' (B + ((stamp ts items).flatMap lineBytes).length) (N + items.length) [] :=
    ⟨al, Moves.nil (h.mono (Nat.le_add_right _ _) (Nat.le_add_right _ _))⟩
  obtain ⟨init, last, hal, hcur⟩ := h.cur
  unfold Writer.write
  rw [accepted_eq]
  by_cases hemp : items.isEmpty = true
  · simp only [hemp, if_true, true_or]
    exact hstay
  simp only [hemp, Bool.false_eq_true, if_false, false_or]
  by_cases hts : ts = 0
  · subst hts
    simp only [if_true, true_or]
    exact hstay
  simp only [hts, if_false, hcur, false_or]
  by_cases hold : ts / 1000 < w.latest
  · simp only [hold, if_true, or_true]
    exact hstay
  simp only [hold, if_false, reduceCtorEq, or_self]
  have hsec : w.latest ≤ ts / 1000 := by omega
  by_cases hroll : ts / 1000 > w.latest ∧ dayOfSec (ts / 1000) > dayOfSec w.latest
  · -- a new day: roll over first, then go on as the writer of the new file
    simp only [hroll, and_self, if_true]
    have hm1 := roll_moves h ts hsec
    obtain ⟨al', hm2⟩ := writeTail_moves hm1.inv ts items (Nat.le_refl _) hgood
    rw [writeTail_fresh w _ _ ts items (some (rollActs fs w.maxFiles ts).1) (get?_new_log hm1.inv.rep hm1.inv.ids) hsec]
    exact ⟨al', hm1.trans hm2 (Nat.le_max_left _ _) (Nat.le_add_right _ _) (Nat.le_add_right _ _)⟩
  · simp only [hroll, if_false, List.nil_append]
    subst hal
    exact writeTail_moves h ts items hsec hgood

/-- **a crash at any byte of the action stream of a `write`** leaves a crash-shaped, well-formed directory holding what the log
held before plus the first `m` accepted items of this call, minus `d` items of files removed by retention -/
theorem crash_in_write (w : Writer) (fs : FS) (al : List AFile) (B N ts : Nat) (items : List MItem) (h : WInv w fs al B N)
    (hgood : ∀ it ∈ items, GoodItem { it with ts := ts })
    (hB : B + ((stamp ts items).flatMap lineBytes).length < 18446744073709551616) (hN : N + items.length + 1 < MAX_ITEM_AMOUNT)
    (hL : w.latest < 18446744073709551616 ∧ ts / 1000 < 18446744073709551616) (k j : Nat) :
    ∃ d m, CrashOK (fs.applyAll (crashPrefix (w.write fs ts items).2.1 k j))
      ((al.flatMap AFile.items ++ (accepted w ts items).take m).drop d) := by
  obtain ⟨_, _, _, _, hcr⟩ := write_moves w fs al B N ts items h hgood
  have hlatest := write_latest_le w fs ts items 18446744073709551615 (Nat.le_of_lt_succ hL.1) (Nat.le_of_lt_succ hL.2)
  obtain ⟨p, held, hp, hs, hok⟩ := hcr k j (Nat.lt_succ_of_le hlatest) hB hN
  exact ⟨_, p.length, List.prefix_iff_eq_take.mp hp ▸ List.suffix_iff_eq_drop.mp hs ▸ hok⟩

/-- the same when what the log holds is the end of a longer list `H` (what a history has accepted so far) -/
theorem crash_in_write_of (w : Writer) (fs : FS) (al : List AFile) (B N ts : Nat) (items : List MItem) (h : WInv w fs al B N)
    (hgood : ∀ it ∈ items, GoodItem { it with ts := ts })
    (hB : B + ((stamp ts items).flatMap lineBytes).length < 18446744073709551616) (hN : N + items.length + 1 < MAX_ITEM_AMOUNT)
    (hL : w.latest < 18446744073709551616 ∧ ts / 1000 < 18446744073709551616) {H : List MItem} (hH : al.flatMap AFile.items <:+ H)
    (k j : Nat) :
    ∃ d m, CrashOK (fs.applyAll (crashPrefix (w.write fs ts items).2.1 k j)) ((H ++ (accepted w ts items).take m).drop d) := by
  obtain ⟨d, m, hok⟩ := crash_in_write w fs al B N ts items h hgood hB hN hL k j
  have hs : (al.flatMap AFile.items ++ (accepted w ts items).take m).drop d <:+ H ++ (accepted w ts items).take m :=
    (List.drop_suffix _ _).trans (List.suffix_append_self_iff.mpr hH)
  exact ⟨_, m, List.suffix_iff_eq_drop.mp hs ▸ hok⟩

/-- a history of writes keeps the invariant, the ghost counters growing by its bytes and items; the log then holds what it held
followed by the accepted items, less the `k` oldest (whole files removed by retention) -/
theorem run_inv (hist : List (Nat × List MItem)) (w : Writer) (fs : FS) (al : List AFile) (B N : Nat) (h : WInv w fs al B N)
    (hgood : ∀ p ∈ hist, ∀ it ∈ p.2, GoodItem { it with ts := p.1 }) :
    ∃ al', WInv (runWrites w fs hist).1 (runWrites w fs hist).2.1 al' (B + histBytes hist) (N + histItems hist) ∧
      ∃ k, al'.flatMap AFile.items = (al.flatMap AFile.items ++ (runWrites w fs hist).2.2).drop k := by
  induction hist generalizing w fs al B N with
  | nil => exact ⟨al, h, 0, by simp [runWrites]⟩
  | cons p rest ih =>
    obtain ⟨ts, items⟩ := p
    obtain ⟨al1, hinv1, hs1, _⟩ := write_moves w fs al B N ts items h (hgood (ts, items) (by simp))
    obtain ⟨al2, hinv2, k2, hk2⟩ := ih _ _ al1 _ _ hinv1 (fun p hp => hgood p (by simp [hp]))
    refine ⟨al2, ?_, _, List.suffix_iff_eq_drop.mp ?_⟩
    · simpa only [runWrites, histBytes, histItems, Nat.add_assoc] using hinv2
    · simp only [runWrites]
      rw [hk2, ← List.append_assoc]
      exact (List.drop_suffix _ _).trans (List.suffix_append_self_iff.mpr hs1)

end Sentinel.MLog
