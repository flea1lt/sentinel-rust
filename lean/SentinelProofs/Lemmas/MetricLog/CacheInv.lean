import SentinelProofs.Lemmas.MetricLog.Writer
import SentinelProofs.Lemmas.List
/-! What a searcher's cached position promises about the abstract log; the writer's changes keep it. -/
set_option autoImplicit false
namespace Sentinel.MLog
open Sentinel

/-- the cached file may have been removed by retention; then it is older than every file, so that no later file can take the cached
name (`dropNew`). The last clause is what lets a search skip the files before the cached one: `cacheOk` accepts a position only if
the cached second is the file's *first* entry -/
def CacheInv (al : List AFile) (c : Cache) : Prop :=
  ∀ fid, c.file = some fid →
    (fid ∈ al.map (·.id) ∨ ∀ f ∈ al, fid.lt f.id = true) ∧
    ∀ A x B, al = A ++ x :: B → x.id = fid →
      (∃ g ∈ x.groups, g.1 = c.curSec) ∧
      ∀ g gs, x.groups = g :: gs → g.1 = c.curSec → ∀ y ∈ A, ∀ g' ∈ y.groups, g'.1 < c.curSec

theorem cacheInv_empty (al : List AFile) : CacheInv al {} :=
  fun _ hf => nomatch hf

/-- a `write` that appends to the last file keeps a cached position good -/
theorem CacheInv.modLast {init : List AFile} {last last' : AFile} {c : Cache} (h : CacheInv (init ++ [last]) c)
    (hid : last'.id = last.id) (hext : ∃ ext, last'.groups.map (·.1) = last.groups.map (·.1) ++ ext) : CacheInv (init ++ [last']) c := by
  obtain ⟨ext, hext⟩ := hext
  have hids : (init ++ [last']).map (·.id) = (init ++ [last]).map (·.id) := by
    rw [List.map_append, List.map_append, List.map_singleton, List.map_singleton, hid]
  intro fid hfid
  obtain ⟨ha, hb⟩ := h fid hfid
  refine ⟨?_, fun A x B hal hx => ?_⟩
  · -- `ha` speaks of the files, `hids` of their ids
    have hall : ∀ l : List AFile, (∀ f ∈ l, fid.lt f.id = true) ↔ ∀ i ∈ l.map (·.id), fid.lt i = true :=
      fun l => (List.forall_mem_map (P := fun i => fid.lt i = true)).symm
    rw [hall, hids, ← hall]
    exact ha
  · rcases snoc_eq_append_cons init last' A x B hal with ⟨_, rfl, rfl⟩ | ⟨B', rfl, rfl⟩
    · obtain ⟨⟨g0, hg0, hg0s⟩, hearly⟩ := hb A last [] rfl (hid ▸ hx)
      have hmem : c.curSec ∈ x.groups.map (·.1) :=
        hext ▸ List.mem_append_left _ (List.mem_map.mpr ⟨g0, hg0, hg0s⟩)
      refine ⟨List.exists_of_mem_map hmem, fun g' gs' hg' hg's => ?_⟩
      -- `last` has a group (`g0`), so the first group of `last'` has the second of the first group of `last`
      obtain ⟨gl, gls, hl⟩ := List.exists_cons_of_ne_nil (List.ne_nil_of_mem hg0)
      rw [hl, hg', List.map_cons, List.map_cons, List.cons_append] at hext
      exact hearly gl gls hl ((List.cons.inj hext).1.symm.trans hg's)
    · exact hb A x (B' ++ [last]) (by rw [List.append_assoc, List.cons_append]) hx

/-- a roll-over (the oldest files go, a later file is added) keeps a cached position good -/
theorem CacheInv.dropNew {al : List AFile} {c : Cache} (h : CacheInv al c) (hs : IdsSorted (al.map (·.id))) (hne : al ≠ []) (q : Nat) (nf : FileId)
    (hgt : ∀ g ∈ al.map (·.id), g.lt nf = true) : CacheInv (al.drop q ++ [AFile.new nf]) c := by
  intro fid hfid
  obtain ⟨ha, hb⟩ := h fid hfid
  have hlt : fid.lt nf = true := by
    rcases ha with ha | ha
    · exact hgt fid ha
    · obtain ⟨a, r, rfl⟩ := List.exists_cons_of_ne_nil hne
      exact FileId.lt_trans (ha a (List.mem_cons_self ..)) (hgt a.id (List.mem_map_of_mem (List.mem_cons_self ..)))
  refine ⟨?_, fun A x B hal hx => ?_⟩
  · by_cases hmem : fid ∈ (al.drop q).map (·.id)
    · left
      rw [List.map_append]
      exact List.mem_append_left _ hmem
    · right
      rw [List.forall_mem_append]
      refine ⟨fun f hf => ?_, fun f hf => List.mem_singleton.mp hf ▸ hlt⟩
      rcases ha with ha | ha
      · rw [← List.take_append_drop q al, List.map_append] at hs ha
        exact (List.pairwise_append.mp hs).2.2 fid ((List.mem_append.mp ha).resolve_right hmem) f.id (List.mem_map_of_mem hf)
      · exact ha f (List.mem_of_mem_drop hf)
  · rcases snoc_eq_append_cons (al.drop q) (AFile.new nf) A x B hal with ⟨_, _, rfl⟩ | ⟨B', rfl, hdrop⟩
    · rw [← hx, show (AFile.new nf).id = nf from rfl, FileId.lt_irrefl] at hlt
      exact nomatch hlt
    · -- a file that stays has in front of it, in `al`, the dropped files as well
      obtain ⟨h1, h2⟩ := hb (al.take q ++ A) x B' (by rw [List.append_assoc, ← hdrop, List.take_append_drop]) hx
      exact ⟨h1, fun g gs hg hgs y hy => h2 g gs hg hgs y (List.mem_append_right _ hy)⟩

end Sentinel.MLog
