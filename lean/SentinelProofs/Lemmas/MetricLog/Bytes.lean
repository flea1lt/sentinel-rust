import Sentinel.MetricLog
import SentinelProofs.Props.C18
/-! The bytes of the metric log. What the writer puts out is read back: a `u64` from its eight big-endian bytes, a string from
its UTF-8 encoding, an item from its line. -/
set_option autoImplicit false
namespace Sentinel.MLog
open Sentinel

theorem be64_length (n : Nat) : (be64 n).length = 8 := rfl

/-- one step of Horner's rule in base `B`; `m` stands for the model's literal for `k * B` -/
theorem horner_step (n k B m : Nat) (h : k * B = m) : n / m * B + n / k % B = n / k := by
  rw [← h, ← Nat.div_div_eq_div_mul, Nat.div_add_mod']

/-- six Horner steps between the top digit and the last; each leaves `k * 256 = m` for two neighbouring literals, closed by evaluation -/
theorem unbe8_digits (n : Nat) (h : n < 18446744073709551616) :
    unbe8 (n / 72057594037927936 % 256) (n / 281474976710656 % 256) (n / 1099511627776 % 256) (n / 4294967296 % 256)
      (n / 16777216 % 256) (n / 65536 % 256) (n / 256 % 256) (n % 256) = n := by
  have top : n / 72057594037927936 % 256 = n / 72057594037927936 :=
    Nat.mod_eq_of_lt ((Nat.div_lt_iff_lt_mul (by decide)).mpr h)
  unfold unbe8
  rw [top, horner_step n, horner_step n, horner_step n, horner_step n, horner_step n, horner_step n, Nat.div_add_mod' n 256]
  all_goals rfl

theorem unbe64_be64 (n : Nat) (rest : Bytes) (h : n < 18446744073709551616) : unbe64 (be64 n ++ rest) = some n :=
  congrArg some (unbe8_digits n h)

/-- an index entry (second, offset) as the writer puts it -/
def encEntry (e : Nat × Nat) : Bytes := be64 e.1 ++ be64 e.2

theorem encEntry_length (e : Nat × Nat) : (encEntry e).length = 16 := rfl

theorem splitLines_line (l rest : Bytes) (h : 10 ∉ l) : splitLines (l ++ 10 :: rest) = l :: splitLines rest := by
  induction l with
  | nil => simp [splitLines]
  | cons c cs ih =>
    have hc : c ≠ 10 := fun e => h (by simp [e])
    have hcs : 10 ∉ cs := fun e => h (by simp [e])
    simp only [List.cons_append, splitLines, hc, if_false, ih hcs]

theorem splitLines_torn (t : Bytes) (h : 10 ∉ t) : splitLines t = if t = [] then [] else [t] := by
  induction t with
  | nil => rfl
  | cons c cs ih =>
    have hc : c ≠ 10 := fun e => h (by simp [e])
    rw [splitLines, if_neg hc, ih (fun e => h (by simp [e]))]
    cases cs <;> simp

theorem char_valid_nat (c : Char) : c.toNat < 55296 ∨ (57343 < c.toNat ∧ c.toNat < 1114112) := by
  have h := c.valid
  unfold UInt32.isValidChar Nat.isValidChar at h
  unfold Char.toNat
  omega

theorem isCont_payload (b : Nat) (h : b < 64) : isCont (128 + b) = true := by
  unfold isCont
  rw [Bool.and_eq_true, decide_eq_true_eq, decide_eq_true_eq]
  omega

/-- In each of the four branches of the encoder the decoder is unfolded once and its tests are rewritten one by one: the range of
the leading byte, the continuation bytes, and its two side conditions (shortest form; no surrogate, at most U+10FFFF), which are
`Char.valid` in the decoder's terms. `rw [utf8Decode]`, not `simp only`: the equations are large. -/
theorem utf8Decode_char (fuel : Nat) (c : Char) (rest : Bytes) :
    utf8Decode (fuel + 1) (utf8EncodeChar c ++ rest) = (utf8Decode fuel rest).map (c :: ·) := by
  have hv := char_valid_nat c
  have hc : Char.ofNat c.toNat = c := Char.ofNat_toNat c
  have h64 : ∀ m : Nat, isCont (128 + m % 64) = true := fun m => isCont_payload _ (Nat.mod_lt m (by decide))
  unfold utf8EncodeChar
  dsimp only
  split
  · next h1 =>
    rw [List.cons_append, List.nil_append, utf8Decode.eq_def]
    dsimp only
    rw [if_pos h1, hc]
  split
  · rw [List.cons_append, List.cons_append, List.nil_append, utf8Decode, if_neg (by omega), if_pos (by omega), if_pos (h64 _),
      Nat.add_sub_cancel_left, Nat.add_sub_cancel_left, Nat.div_add_mod', hc]
  split
  · have hshort : ((224 + c.toNat / 4096 != 224) || decide (160 ≤ 128 + c.toNat / 64 % 64)) = true := by
      rw [Bool.or_eq_true, bne_iff_ne, decide_eq_true_eq]
      omega
    have hsurr : ((224 + c.toNat / 4096 != 237) || decide (128 + c.toNat / 64 % 64 < 160)) = true := by
      rw [Bool.or_eq_true, bne_iff_ne, decide_eq_true_eq]
      omega
    rw [List.cons_append, List.cons_append, List.cons_append, List.nil_append, utf8Decode, if_neg (by omega), if_neg (by omega),
      if_pos (by omega)]
    dsimp only
    rw [h64, h64, hshort, hsurr, if_pos (by rfl), Nat.add_sub_cancel_left, Nat.add_sub_cancel_left, Nat.add_sub_cancel_left,
      show c.toNat / 4096 * 4096 + c.toNat / 64 % 64 * 64 + c.toNat % 64 = c.toNat by omega, hc]
  · have hshort : ((240 + c.toNat / 262144 != 240) || decide (144 ≤ 128 + c.toNat / 4096 % 64)) = true := by
      rw [Bool.or_eq_true, bne_iff_ne, decide_eq_true_eq]
      omega
    have hmax : ((240 + c.toNat / 262144 != 244) || decide (128 + c.toNat / 4096 % 64 < 144)) = true := by
      rw [Bool.or_eq_true, bne_iff_ne, decide_eq_true_eq]
      omega
    rw [List.cons_append, List.cons_append, List.cons_append, List.cons_append, List.nil_append, utf8Decode, if_neg (by omega),
      if_neg (by omega), if_neg (by omega), if_pos (by omega)]
    dsimp only
    rw [h64, h64, h64, hshort, hmax, if_pos (by rfl), Nat.add_sub_cancel_left, Nat.add_sub_cancel_left, Nat.add_sub_cancel_left,
      Nat.add_sub_cancel_left,
      show c.toNat / 262144 * 262144 + c.toNat / 4096 % 64 * 4096 + c.toNat / 64 % 64 * 64 + c.toNat % 64 = c.toNat by omega, hc]

theorem utf8Encode_cons (c : Char) (cs : List Char) : utf8Encode (c :: cs) = utf8EncodeChar c ++ utf8Encode cs :=
  List.flatMap_cons

theorem utf8Decode_encode (cs : List Char) (fuel : Nat) (h : cs.length < fuel) : utf8Decode fuel (utf8Encode cs) = some cs := by
  induction cs generalizing fuel with
  | nil => cases fuel with
    | zero => omega
    | succ f => simp [utf8Encode, utf8Decode]
  | cons c cs ih =>
    cases fuel with
    | zero => omega
    | succ f =>
      have hlen : cs.length < f := by
        rw [List.length_cons] at h
        omega
      rw [utf8Encode_cons, utf8Decode_char, ih f hlen]
      rfl

theorem utf8EncodeChar_length_pos (c : Char) : 1 ≤ (utf8EncodeChar c).length := by
  unfold utf8EncodeChar
  dsimp only
  -- in each of the four branches a non-empty literal
  repeat' split
  all_goals exact Nat.succ_le_succ (Nat.zero_le _)

theorem utf8Encode_length (cs : List Char) : cs.length ≤ (utf8Encode cs).length := by
  induction cs with
  | nil => simp [utf8Encode]
  | cons c cs ih =>
    rw [utf8Encode_cons, List.length_append, List.length_cons]
    have := utf8EncodeChar_length_pos c
    omega

theorem decodeUtf8_encode (cs : List Char) : decodeUtf8 (utf8Encode cs) = some cs := by
  unfold decodeUtf8
  have hlen := utf8Encode_length cs
  exact utf8Decode_encode cs _ (Nat.lt_succ_of_le hlen)

/-- neither LF nor CR: a resource name of such characters cannot break the line it is printed in -/
def plainC (c : Char) : Prop := c ≠ '\n' ∧ c ≠ '\r'

theorem digitChar_plain (d : Nat) : plainC (digitChar d) :=
  ⟨digitChar_ne '\n' rfl d, digitChar_ne '\r' rfl d⟩

theorem toLine_plain (it : MItem) (h : ∀ c ∈ it.resource, plainC c) : ∀ c ∈ it.toLine, plainC c := by
  have hn := printNat_all plainC digitChar_plain
  have hres : ∀ c ∈ sanitize it.resource, plainC c := by
    intro c hc
    obtain ⟨d, hd, rfl⟩ := List.mem_map.mp hc
    split
    · exact ⟨by decide, by decide⟩
    · exact h d hd
  apply joinBar_all plainC ⟨by decide, by decide⟩
  simp only [List.forall_mem_cons]
  exact ⟨hn _, timeStr_all plainC digitChar_plain ⟨by decide, by decide⟩ _, hres, hn _, hn _, hn _, hn _, hn _, hn _, hn _, hn _, nofun⟩

theorem utf8EncodeChar_self_or_ge (c : Char) : ∀ x ∈ utf8EncodeChar c, x = c.toNat ∨ 128 ≤ x := by
  intro x hx
  unfold utf8EncodeChar at hx
  dsimp only at hx
  -- in each of the four branches `x` is one of the listed bytes: `c.toNat` itself, or 128 and more plus payload bits
  repeat' split at hx
  all_goals
    simp only [List.mem_cons, List.not_mem_nil, or_false] at hx
    omega

theorem ascii_not_mem_utf8Encode (cs : List Char) (b : Nat) (hb : b < 128) (hc : ∀ c ∈ cs, c ≠ Char.ofNat b) : b ∉ utf8Encode cs := by
  intro hm
  obtain ⟨c, hcm, hbm⟩ := List.mem_flatMap.mp hm
  rcases utf8EncodeChar_self_or_ge c b hbm with e | e
  · exact hc c hcm (by rw [e, Char.ofNat_toNat])
  · omega

/-- the line of an item, without the terminator -/
def lineOf (it : MItem) : Bytes := utf8Encode it.toLine

theorem lineBytes_eq (it : MItem) : lineBytes it = lineOf it ++ [10] := rfl

theorem dropLastCR_id (l : Bytes) (h : 13 ∉ l) : dropLastCR l = l := by
  unfold dropLastCR
  split
  · rename_i r hr
    exact absurd (List.mem_reverse.mp (hr ▸ List.mem_cons_self ..)) h
  · rfl

theorem dropAllCR_id (l : Bytes) (h : 13 ∉ l) : dropAllCR l = l := by
  unfold dropAllCR
  cases hl : l.reverse with
  | nil => rw [← List.reverse_reverse l, hl]; rfl
  | cons a r =>
    have ha : a ≠ 13 := fun e => h (List.mem_reverse.mp (hl ▸ e ▸ List.mem_cons_self ..))
    rw [List.dropWhile_cons_of_neg (by simpa using ha), ← hl, List.reverse_reverse]

/-- an item as the property quantifies over them: field values within their Rust types, a name without line breaks -/
def GoodItem (it : MItem) : Prop := it.inRange ∧ ∀ c ∈ it.resource, plainC c

theorem stored_eq (it : MItem) (h : it.inRange) : stored it = { it with resource := sanitize it.resource } := by
  obtain ⟨_, _, _, _, _, _, _, _, hrtype⟩ := h
  unfold stored
  rw [rtypeOfU8_of_le it.rtype hrtype]

theorem lineOf_no_nl (it : MItem) (h : GoodItem it) : 10 ∉ lineOf it :=
  ascii_not_mem_utf8Encode _ 10 (by omega) (fun c hc => (toLine_plain it h.2 c hc).1)

theorem lineOf_no_cr (it : MItem) (h : GoodItem it) : 13 ∉ lineOf it :=
  ascii_not_mem_utf8Encode _ 13 (by omega) (fun c hc => (toLine_plain it h.2 c hc).2)

theorem parseLine_lineOf (it : MItem) (h : GoodItem it) : parseLine (lineOf it) = some (stored it) := by
  unfold parseLine lineOf
  rw [decodeUtf8_encode, Option.bind_some, line_roundtrip it h.1, stored_eq it h.1]

/-- the two readers strip carriage returns before parsing; a printed line has none -/
theorem parseLine_dropLastCR (it : MItem) (h : GoodItem it) : parseLine (dropLastCR (lineOf it)) = some (stored it) := by
  rw [dropLastCR_id _ (lineOf_no_cr it h), parseLine_lineOf it h]

theorem parseLine_dropAllCR (it : MItem) (h : GoodItem it) : parseLine (dropAllCR (lineOf it)) = some (stored it) := by
  rw [dropAllCR_id _ (lineOf_no_cr it h), parseLine_lineOf it h]

end Sentinel.MLog
