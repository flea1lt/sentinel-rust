import SentinelProofs.Lemmas.MetricLog.Index
import SentinelProofs.Lemmas.MetricLog.CacheInv
/-! A long-lived searcher keeps the file and the second at which its last search started. A search that goes through an accepted
cached position starts where a fresh one would (`cache_findStart`): by `CacheInv` the files it skips hold only earlier seconds. -/
set_option autoImplicit false
namespace Sentinel.MLog
open Sentinel

/-- files whose index has no entry at or after `bs` are passed over -/
theorem findStart_skip (fs : FS) (bs : Nat) (A R : List AFile)
    (h : ∀ y ∈ A, (fs.idxs.get? y.id).bind (findEntry · bs) = none) :
    findStart fs bs ((A ++ R).map (·.id)) = findStart fs bs (R.map (·.id)) := by
  induction A with
  | nil => rfl
  | cons y r ih =>
    simp only [List.cons_append, List.map_cons, findStart, h y (by simp)]
    exact ih (fun z hz => h z (by simp [hz]))

/-- `is_position_in_time_for`: the cached second is not after the begin second and is the first eight bytes of the cached file's index -/
theorem cacheOk_iff (fs : FS) (c : Cache) (b : Nat) :
    cacheOk fs c b = true ↔
      c.curSec ≤ b / 1000 ∧ ∃ f idx, c.file = some f ∧ fs.idxs.get? f = some idx ∧ unbe64 idx = some c.curSec := by
  unfold cacheOk
  cases hf : c.file with
  | none => simp
  | some f =>
    cases hg : fs.idxs.get? f with
    | none => simp [hg]
    | some idx => cases hu : unbe64 idx <;> simp [hg, hu]

/-- those first eight bytes are the second of the file's first group -/
theorem unbe64_idxOf (gs : List Group) (s : Nat) (hs : ∀ g ∈ gs, g.1 < 18446744073709551616) (h : unbe64 (idxOf 0 gs) = some s) :
    ∃ g rest, gs = g :: rest ∧ g.1 = s := by
  cases gs with
  | nil => simp [idxOf, unbe64] at h
  | cons g rest =>
    refine ⟨g, rest, rfl, ?_⟩
    simp only [idxOf, encEntry, List.append_assoc] at h
    rw [unbe64_be64 _ _ (hs g (by simp))] at h
    simpa using h

/-- a searcher with no cached position starts from the whole listing -/
theorem startFiles_fresh (fs : FS) (b : Nat) : startFiles fs {} b = fs.listLogs := by simp [startFiles, cacheOk]

/-- `hlive`: the index is read without a torn entry, so its first eight bytes are those of `idxOf` -/
theorem cache_findStart (fs : FS) (al : List AFile) (hrep : Rep fs al) (hwf : WF al) (hlive : ∀ f ∈ al, f.tail = [] ∧ f.idxTail = [])
    (c : Cache) (hinv : CacheInv al c) (b : Nat) :
    findStart fs (b / 1000) (startFiles fs c b) = findStart fs (b / 1000) (al.map (·.id)) := by
  unfold startFiles
  rw [hrep.listing]
  by_cases hok : cacheOk fs c b = true
  · obtain ⟨hb, fid, idx, hfile, hidx, hu⟩ := (cacheOk_iff fs c b).mp hok
    rw [if_pos hok, hfile]
    dsimp only
    by_cases hmem : (al.map (·.id)).contains fid = true
    · rw [if_pos hmem]
      obtain ⟨A, x, B, hal, hx, hd⟩ := dropWhile_ne_map (·.id) al fid (List.contains_iff_mem.mp hmem)
      have hxm : x ∈ al := by rw [hal]; simp
      have hxidx : idx = idxOf 0 x.groups := by
        rcases hrep.idxs x hxm with h | ⟨h, _⟩
        · rw [hx, hidx] at h
          rw [Option.some.inj h, AFile.idx, (hlive x hxm).2, List.append_nil]
        · rw [hx, hidx] at h; exact nomatch h
      rw [hxidx] at hu
      obtain ⟨g, rest, hg, hgs⟩ := unbe64_idxOf x.groups _ (hwf.small x hxm).1 hu
      -- the cached second is the file's first entry, so by `CacheInv` the files before it hold only earlier seconds
      have hearly := ((hinv fid hfile).2 A x B hal hx).2 g rest hg hgs
      rw [hd, hal]
      symm
      apply findStart_skip
      intro y hy
      rw [idx_lookup hrep hwf (by rw [hal]; simp [hy]), firstOffset_eq_none]
      intro g' hg'
      exact Nat.lt_of_lt_of_le (hearly y hy g' hg') hb
    · rw [if_neg hmem]
  · rw [if_neg hok]

theorem before_of_sorted (al : List AFile) (hs : IdsSorted (al.map (·.id))) (A : List AFile) (x : AFile) (B A' : List AFile) (x' : AFile) (B' : List AFile)
    (h1 : al = A ++ x :: B) (h2 : al = A' ++ x' :: B') (hid : x'.id = x.id) : ∀ y ∈ A', y ∈ A := by
  obtain ⟨rfl, _, _⟩ := append_cons_unique_of_nodup_map (·.id) A x B A' x' B' (h1 ▸ h2) hid (h1 ▸ nodup_of_sorted _ hs)
  exact fun y hy => hy

/-- **a long-lived searcher answers like a fresh one**, and its new cached position is again a good one -/
theorem cached_search_eq_fresh (fs : FS) (al : List AFile) (hrep : Rep fs al) (hwf : WF al) (hlive : ∀ f ∈ al, f.tail = [] ∧ f.idxTail = [])
    (hs : IdsSorted (al.map (·.id))) (c : Cache) (hinv : CacheInv al c) (b e : Nat) (res : List Char) (n : Nat) :
    (searchRange fs c b e res).2 = (searchRange fs {} b e res).2 ∧ CacheInv al (searchRange fs c b e res).1 ∧
    (searchLines fs c b n).2 = (searchLines fs {} b n).2 ∧ CacheInv al (searchLines fs c b n).1 := by
  have hc := cache_findStart fs al hrep hwf hlive c hinv b
  have h0 := cache_findStart fs al hrep hwf hlive {} (cacheInv_empty al) b
  have hnew : ∀ files sec off, findStart fs (b / 1000) (al.map (·.id)) = some (files, sec, off) →
      CacheInv al { file := files.head?, curSec := sec } := by
    intro files sec off hf
    rcases findStart_cases fs al (b / 1000) (fun f hf => idx_lookup hrep hwf hf _) with
      ⟨hnone, _⟩ | ⟨A, f, B, pre, g, post, hal, hgs, hA, _, hg, hfs⟩
    · rw [hnone] at hf; exact nomatch hf
    · rw [hfs] at hf
      simp only [Option.some.injEq, Prod.mk.injEq] at hf
      obtain ⟨rfl, rfl, _⟩ := hf
      intro fid hfid
      rw [List.head?_cons, Option.some.injEq] at hfid
      have hfmem : fid ∈ al.map (·.id) := by
        rw [← hfid, hal]
        simp
      refine ⟨Or.inl hfmem, fun A' x' B' hal' hx' => ?_⟩
      obtain ⟨rfl, rfl, _⟩ := append_cons_unique_of_nodup_map (·.id) A f B A' x' B' (hal ▸ hal') (hx'.trans hfid.symm) (hal ▸ nodup_of_sorted _ hs)
      have hgmem : g ∈ f.groups := by
        rw [hgs]
        exact List.mem_append_right _ (List.mem_cons_self ..)
      exact ⟨⟨g, hgmem, rfl⟩, fun _ _ _ _ y hy g' hg' => Nat.lt_of_lt_of_le (hA y hy g' hg') hg⟩
  unfold searchRange searchLines
  rw [hc, h0]
  cases hf : findStart fs (b / 1000) (al.map (·.id)) with
  | none => exact ⟨rfl, hinv, rfl, hinv⟩
  | some p =>
    obtain ⟨files, sec, off⟩ := p
    exact ⟨rfl, hnew files sec off hf, rfl, hnew files sec off hf⟩

end Sentinel.MLog
