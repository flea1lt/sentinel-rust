import SentinelProofs.Lemmas.MetricLog.Index
import SentinelProofs.Lemmas.MetricLog.Dir
/-!
The writer's side of the abstraction: `RepL` (the directory is, file for file, the abstract log), `AOk` (what the writer guarantees
about the log), `WInv` (the invariant). A roll-over is followed over `RepL` alone (`Runs`), because the invariant does not hold
between its actions. That `write` keeps `WInv` is `write_moves` in `Crash.lean`, proved together with the crash prefixes.
-/
set_option autoImplicit false
namespace Sentinel.MLog
open Sentinel

def AFile.new (id : FileId) : AFile := ⟨id, [], [], []⟩
def logDir (al : List AFile) : Dir := al.map (fun f => (f.id, f.log))
def idxDir (al : List AFile) : Dir := al.map (fun f => (f.id, f.idx))

/-- the directory literally (`L`): its two listings *are* those of `al`, so the writer's actions can be computed on it. `Rep` asks for the
sorted listing of the log files and for what look-ups return, which is all that a crash state satisfies (an orphaned or a missing
index file) -/
structure RepL (fs : FS) (al : List AFile) : Prop where
  logs : fs.logs = logDir al
  idxs : fs.idxs = idxDir al

/-- how many of `n` files `remove_deprecated_files` removes before a new one is created: down to `maxFiles - 1` -/
def dropCount (n maxFiles : Nat) : Nat := if n ≥ maxFiles then n - maxFiles + 1 else 0

theorem listLogs_eq (fs : FS) (al : List AFile) (hl : fs.logs = logDir al) (hs : IdsSorted (al.map (·.id))) : fs.listLogs = al.map (·.id) := by
  unfold FS.listLogs
  rw [hl, logDir, List.map_map]
  exact foldr_insertId_sorted _ hs

theorem get?_logDir {fs : FS} {al : List AFile} (hl : fs.logs = logDir al) (hs : IdsSorted (al.map (·.id))) {f : AFile} (hf : f ∈ al) :
    fs.logs.get? f.id = some f.log := by
  rw [hl, logDir]
  exact Dir.get?_map_mem al (·.id) (·.log) hs f hf

theorem get?_idxDir {fs : FS} {al : List AFile} (hi : fs.idxs = idxDir al) (hs : IdsSorted (al.map (·.id))) {f : AFile} (hf : f ∈ al) :
    fs.idxs.get? f.id = some f.idx := by
  rw [hi, idxDir]
  exact Dir.get?_map_mem al (·.id) (·.idx) hs f hf

theorem nextFileId_day_gt (fs : FS) (al : List AFile) (h : RepL fs al) (hs : IdsSorted (al.map (·.id))) (day : Nat)
    (hd : ∀ f ∈ al, f.id.day ≤ day) : (nextFileId fs day).day = day ∧ ∀ g ∈ al.map (·.id), g.lt (nextFileId fs day) = true := by
  unfold nextFileId
  rw [listLogs_eq fs al h.logs hs]
  have hday : ∀ g ∈ al.map (·.id), g.day ≤ day := fun g hg => by
    obtain ⟨f, hf, rfl⟩ := List.mem_map.mp hg
    exact hd f hf
  -- a file of an earlier day is before; one of the same day is among the filtered ones, hence not after the last of them
  cases hl : ((al.map (·.id)).filter (fun x => decide (x.day = day))).getLast? with
  | none =>
    refine ⟨rfl, fun g hg => (FileId.lt_iff _ _).mpr (Or.inl (Nat.lt_of_le_of_ne (hday g hg) fun e => ?_))⟩
    have : g ∈ (al.map (·.id)).filter (fun x => decide (x.day = day)) := List.mem_filter.mpr ⟨hg, by simpa using e⟩
    rw [List.getLast?_eq_none_iff.mp hl] at this
    exact absurd this (List.not_mem_nil)
  | some l =>
    have hlday : l.day = day := by simpa using (List.mem_filter.mp (List.mem_of_getLast? hl)).2
    refine ⟨rfl, fun g hg => (FileId.lt_iff _ _).mpr ?_⟩
    rcases Nat.lt_or_eq_of_le (hday g hg) with hlt | e
    · exact Or.inl hlt
    · refine Or.inr ⟨e, ?_⟩
      rcases sorted_le_last _ (List.Pairwise.filter _ hs) g l hl (List.mem_filter.mpr ⟨hg, by simpa using e⟩) with h1 | h1
      · rw [h1]; exact Nat.lt_succ_self _
      · rcases (FileId.lt_iff _ _).mp h1 with h2 | h2
        · omega
        · exact Nat.lt_succ_of_lt h2.2

/-- `remove_deprecated_files` removes a log file, then its index file -/
def rmPair (f : FileId) : List Act := [Act.remove false f, Act.remove true f]

theorem removeDeprecated_eq (fs : FS) (al : List AFile) (h : RepL fs al) (hs : IdsSorted (al.map (·.id))) (maxFiles : Nat) :
    removeDeprecated fs maxFiles =
      ((al.take (dropCount al.length maxFiles)).map (·.id)).flatMap rmPair := by
  unfold removeDeprecated dropCount
  rw [listLogs_eq fs al h.logs hs]
  simp only [List.length_map]
  split
  · rw [List.map_take]; rfl
  · simp

theorem rollActs_eq (fs : FS) (al : List AFile) (h : RepL fs al) (hs : IdsSorted (al.map (·.id))) (maxFiles tsMs : Nat)
    (hd : ∀ f ∈ al, f.id.day ≤ dayOfSec (tsMs / 1000)) :
    ∃ nf, rollActs fs maxFiles tsMs = (nf, ((al.take (dropCount al.length maxFiles)).map (·.id)).flatMap rmPair ++
        [Act.create false nf, Act.create true nf]) ∧
      nf.day = dayOfSec (tsMs / 1000) ∧ ∀ g ∈ al.map (·.id), g.lt nf = true := by
  obtain ⟨hday, hgt⟩ := nextFileId_day_gt fs al h hs (dayOfSec (tsMs / 1000)) hd
  refine ⟨_, ?_, hday, hgt⟩
  unfold rollActs
  rw [removeDeprecated_eq fs al h hs maxFiles]

/-- `Rep` from the exact listing of the log files and a look-up per index file: how the crash states, whose index directory is not
that of `al`, get their `Rep` -/
theorem rep_of_logDir (fs : FS) (al : List AFile) (hl : fs.logs = logDir al) (hs : IdsSorted (al.map (·.id)))
    (hi : ∀ f ∈ al, fs.idxs.get? f.id = some f.idx ∨ (fs.idxs.get? f.id = none ∧ f.groups = [])) : Rep fs al :=
  ⟨listLogs_eq fs al hl hs, fun f hf => get?_logDir hl hs hf, hi⟩

theorem rep_of_repL {fs : FS} {al : List AFile} (h : RepL fs al) (hs : IdsSorted (al.map (·.id))) : Rep fs al :=
  rep_of_logDir fs al h.logs hs fun f hf => Or.inl (get?_idxDir h.idxs hs hf)

/-- running `acts` from `fs` ends in the directory of `al'`; dying on the way leaves a directory in `C` -/
structure Runs (fs : FS) (acts : List Act) (al' : List AFile) (C : FS → Prop) : Prop where
  rep : RepL (fs.applyAll acts) al'
  crash : ∀ k j, C (fs.applyAll (crashPrefix acts k j))

theorem Runs.nil {fs : FS} {al : List AFile} {C : FS → Prop} (h : RepL fs al) (hc : C fs) : Runs fs [] al C :=
  ⟨h, fun k j => by rw [crashPrefix_nil]; exact hc⟩

theorem Runs.append {fs : FS} {a b : List Act} {al₁ al₂ : List AFile} {C : FS → Prop} (h₁ : Runs fs a al₁ C)
    (h₂ : Runs (fs.applyAll a) b al₂ C) : Runs fs (a ++ b) al₂ C :=
  ⟨by rw [applyAll_append]; exact h₂.rep, crash_append fs a b C h₁.crash h₂.crash⟩

/-- between the two removals the index file is an orphan, which `Rep` does not see -/
theorem rm_runs (fs : FS) (x : AFile) (r : List AFile) (h : RepL fs (x :: r)) (hs : IdsSorted ((x :: r).map (·.id))) (C : FS → Prop)
    (h0 : C fs) (hC : ∀ fs', Rep fs' r → C fs') : Runs fs (rmPair x.id) r C := by
  have hsr : IdsSorted (r.map (·.id)) := (List.pairwise_cons.mp hs).2
  have hlogs : Dir.erase fs.logs x.id = logDir r := by rw [h.logs]; exact Dir.erase_map_head x r (·.id) (·.log) hs
  have hidxs : Dir.erase fs.idxs x.id = idxDir r := by rw [h.idxs]; exact Dir.erase_map_head x r (·.id) (·.idx) hs
  have hrep : RepL (fs.applyAll (rmPair x.id)) r := ⟨hlogs, hidxs⟩
  refine ⟨hrep, crash_pair fs _ _ (fun _ => rfl) (fun _ => rfl) C h0 (hC _ ?_) (hC _ (rep_of_repL hrep hsr))⟩
  refine rep_of_logDir _ r hlogs hsr fun f hf => Or.inl ?_
  -- the first removal leaves the index directory as it is
  show Dir.get? fs.idxs f.id = _
  exact get?_idxDir h.idxs hs (List.mem_cons_of_mem _ hf)

theorem rms_runs (k : Nat) (fs : FS) (al : List AFile) (h : RepL fs al) (hs : IdsSorted (al.map (·.id))) (C : FS → Prop)
    (hC : ∀ q fs', Rep fs' (al.drop q) → C fs') : Runs fs (((al.take k).map (·.id)).flatMap rmPair) (al.drop k) C := by
  induction k generalizing fs al with
  | zero => exact Runs.nil h (hC 0 fs (rep_of_repL h hs))
  | succ k ih =>
    cases al with
    | nil => exact Runs.nil h (hC 0 fs (rep_of_repL h hs))
    | cons x r =>
      have h1 := rm_runs fs x r h hs C (hC 0 fs (rep_of_repL h hs)) (hC 1)
      exact h1.append (ih _ r h1.rep (List.pairwise_cons.mp hs).2 fun q => hC (q + 1))

/-- between the two creations the new file has no index yet: the second alternative of `Rep.idxs` -/
theorem create_runs (fs : FS) (al : List AFile) (h : RepL fs al) (hsal : IdsSorted (al.map (·.id))) (nf : FileId)
    (hgt : ∀ g ∈ al.map (·.id), g.lt nf = true) (C : FS → Prop) (h0 : C fs) (hC : ∀ fs', Rep fs' (al ++ [AFile.new nf]) → C fs') :
    Runs fs [Act.create false nf, Act.create true nf] (al ++ [AFile.new nf]) C := by
  have hs : IdsSorted ((al ++ [AFile.new nf]).map (·.id)) := by rw [List.map_append]; exact sorted_snoc _ hsal nf hgt
  have hnot : nf ∉ al.map (·.id) := by
    intro hm
    have := hgt nf hm
    rw [FileId.lt_irrefl] at this
    exact Bool.false_ne_true this
  -- creating a file that is not there appends the empty file, which is what `AFile.new` stands for
  have hlogs : Dir.create fs.logs nf = logDir (al ++ [AFile.new nf]) := by
    rw [h.logs, Dir.create, logDir, Dir.erase_map_not_mem _ _ _ _ hnot]
    simp [logDir, AFile.new, AFile.log, groupsBytes]
  have hidxs : Dir.create fs.idxs nf = idxDir (al ++ [AFile.new nf]) := by
    rw [h.idxs, Dir.create, idxDir, Dir.erase_map_not_mem _ _ _ _ hnot]
    simp [idxDir, AFile.new, AFile.idx, idxOf]
  have hrep : RepL (fs.applyAll [Act.create false nf, Act.create true nf]) (al ++ [AFile.new nf]) := ⟨hlogs, hidxs⟩
  refine ⟨hrep, crash_pair fs _ _ (fun _ => rfl) (fun _ => rfl) C h0 (hC _ ?_) (hC _ (rep_of_repL hrep hs))⟩
  refine rep_of_logDir _ _ hlogs hs fun f hf => ?_
  show Dir.get? fs.idxs f.id = _ ∨ Dir.get? fs.idxs f.id = none ∧ _
  rcases List.mem_append.mp hf with h1 | h1
  · exact Or.inl (get?_idxDir h.idxs hsal h1)
  · rw [List.mem_singleton.mp h1, h.idxs]
    exact Or.inr ⟨Dir.get?_map_not_mem al (·.id) (·.idx) nf hnot, rfl⟩

/-- the crash condition: some of the oldest files are gone (the index file of the last removed one possibly still there), or the new
log file exists without its index, or the roll-over is complete. How many are gone (`q`) is left open on purpose: no consumer needs
the bound. `rollover_spec` (C19) and `roll_prefix_state` are its two projections -/
theorem roll_runs (fs : FS) (al : List AFile) (h : RepL fs al) (hs : IdsSorted (al.map (·.id))) (maxFiles tsMs : Nat)
    (hd : ∀ f ∈ al, f.id.day ≤ dayOfSec (tsMs / 1000)) :
    Runs fs (rollActs fs maxFiles tsMs).2 (al.drop (dropCount al.length maxFiles) ++ [AFile.new (rollActs fs maxFiles tsMs).1])
      (fun fs' => ∃ al' q, Rep fs' al' ∧ (al' = al.drop q ∨ al' = al.drop q ++ [AFile.new (rollActs fs maxFiles tsMs).1])) ∧
    IdsSorted ((al.drop (dropCount al.length maxFiles) ++ [AFile.new (rollActs fs maxFiles tsMs).1]).map (·.id)) ∧
    (rollActs fs maxFiles tsMs).1.day = dayOfSec (tsMs / 1000) := by
  obtain ⟨nf, hact, hday, hgt⟩ := rollActs_eq fs al h hs maxFiles tsMs hd
  rw [hact]
  generalize dropCount al.length maxFiles = dc
  have hsd : IdsSorted ((al.drop dc).map (·.id)) := by rw [List.map_drop]; exact hs.sublist (List.drop_sublist dc _)
  have hgtd : ∀ g ∈ (al.drop dc).map (·.id), g.lt nf = true := by
    intro g hg
    obtain ⟨f, hf, rfl⟩ := List.mem_map.mp hg
    exact hgt f.id (List.mem_map.mpr ⟨f, List.mem_of_mem_drop hf, rfl⟩)
  let C : FS → Prop := fun fs' => ∃ al' q, Rep fs' al' ∧ (al' = al.drop q ∨ al' = al.drop q ++ [AFile.new nf])
  have h1 := rms_runs dc fs al h hs C fun q fs' hr => ⟨_, q, hr, Or.inl rfl⟩
  have h2 := create_runs _ (al.drop dc) h1.rep hsd nf hgtd C ⟨_, dc, rep_of_repL h1.rep hsd, Or.inl rfl⟩
    fun fs' hr => ⟨_, dc, hr, Or.inr rfl⟩
  exact ⟨h1.append h2, by rw [List.map_append]; exact sorted_snoc _ hsd nf hgtd, hday⟩

theorem roll_prefix_state (fs : FS) (al : List AFile) (h : RepL fs al) (hs : IdsSorted (al.map (·.id))) (maxFiles tsMs : Nat)
    (hd : ∀ f ∈ al, f.id.day ≤ dayOfSec (tsMs / 1000)) (k j : Nat) :
    ∃ al' q, Rep (fs.applyAll (crashPrefix (rollActs fs maxFiles tsMs).2 k j)) al' ∧
      (al' = al.drop q ∨ al' = al.drop q ++ [AFile.new (rollActs fs maxFiles tsMs).1]) :=
  (roll_runs fs al h hs maxFiles tsMs hd).1.crash k j

/-- what the writer guarantees about the abstract files (everything that does not mention the directory) -/
structure AOk (latest : Nat) (al : List AFile) (B N : Nat) : Prop where
  live : ∀ f ∈ al, f.tail = [] ∧ f.idxTail = []
  sorted : (al.flatMap (fun f => f.groups.map (·.1))).Pairwise (· ≤ ·)
  secsLe : ∀ f ∈ al, ∀ g ∈ f.groups, g.1 ≤ latest
  itemSecs : ∀ f ∈ al, ∀ g ∈ f.groups, ∀ it ∈ g.2, secOf it = g.1
  good : ∀ f ∈ al, ∀ g ∈ f.groups, ∀ it ∈ g.2, GoodItem it
  bytes : ∀ f ∈ al, (groupsBytes f.groups).length ≤ B
  items : (al.flatMap AFile.items).length ≤ N

/-- what `AOk` asks of each file by itself, so that `AOk.modLast` can take one hypothesis about the file that replaces the last. One
`∀ g` over the groups, so that `AOk.entry` and `AOk.lines` split the appended group list once -/
structure FOk (L B : Nat) (f : AFile) : Prop where
  live : f.tail = [] ∧ f.idxTail = []
  groups : ∀ g ∈ f.groups, g.1 ≤ L ∧ ∀ it ∈ g.2, secOf it = g.1 ∧ GoodItem it
  bytes : (groupsBytes f.groups).length ≤ B

theorem AOk.iff_fok {L B N : Nat} {al : List AFile} : AOk L al B N ↔
    (∀ f ∈ al, FOk L B f) ∧ (al.flatMap (fun f => f.groups.map (·.1))).Pairwise (· ≤ ·) ∧ (al.flatMap AFile.items).length ≤ N := by
  constructor
  · intro h
    refine ⟨fun f hf => ?_, h.sorted, h.items⟩
    exact {
      live := h.live f hf
      groups := fun g hg => ⟨h.secsLe f hf g hg, fun it hit => ⟨h.itemSecs f hf g hg it hit, h.good f hf g hg it hit⟩⟩
      bytes := h.bytes f hf }
  · intro ⟨hf, hsorted, hitems⟩
    exact {
      live := fun f m => (hf f m).live
      sorted := hsorted
      secsLe := fun f m g hg => ((hf f m).groups g hg).1
      itemSecs := fun f m g hg it hit => (((hf f m).groups g hg).2 it hit).1
      good := fun f m g hg it hit => (((hf f m).groups g hg).2 it hit).2
      bytes := fun f m => (hf f m).bytes
      items := hitems }

theorem FOk.mono {L L' B B' : Nat} {f : AFile} (h : FOk L B f) (hL : L ≤ L') (hB : B ≤ B') : FOk L' B' f :=
  ⟨h.live, fun g hg => ⟨Nat.le_trans (h.groups g hg).1 hL, (h.groups g hg).2⟩, Nat.le_trans h.bytes hB⟩

theorem AOk.mono {L L' B B' N N' : Nat} {al : List AFile} (h : AOk L al B N) (hL : L ≤ L') (hB : B ≤ B') (hN : N ≤ N') : AOk L' al B' N' :=
  AOk.iff_fok.mpr ⟨fun f hf => ((AOk.iff_fok.mp h).1 f hf).mono hL hB, h.sorted, Nat.le_trans h.items hN⟩

theorem AOk.nil (L : Nat) : AOk L [] 0 0 :=
  AOk.iff_fok.mpr ⟨nofun, List.Pairwise.nil, Nat.le_refl 0⟩

theorem AOk.drop {L B N : Nat} {al : List AFile} (h : AOk L al B N) (k : Nat) : AOk L (al.drop k) B N :=
  AOk.iff_fok.mpr ⟨fun f hf => (AOk.iff_fok.mp h).1 f (List.mem_of_mem_drop hf),
    List.Pairwise.sublist (flatMap_drop_suffix al k _).sublist h.sorted,
    Nat.le_trans (flatMap_drop_suffix al k _).length_le h.items⟩

theorem items_snoc_new (al : List AFile) (id : FileId) : (al ++ [AFile.new id]).flatMap AFile.items = al.flatMap AFile.items := by
  simp [AFile.new, AFile.items, groupsItems]

theorem AOk.snoc_new {L B N : Nat} {al : List AFile} (h : AOk L al B N) (id : FileId) : AOk L (al ++ [AFile.new id]) B N := by
  have hd := AOk.iff_fok.mp h
  refine AOk.iff_fok.mpr ⟨?_, ?_, ?_⟩
  · simp only [List.forall_mem_append, List.forall_mem_singleton]
    exact ⟨hd.1, ⟨⟨rfl, rfl⟩, (fun _ hg => nomatch hg), Nat.zero_le _⟩⟩
  · simpa [AFile.new] using hd.2.1
  · rw [items_snoc_new]
    exact hd.2.2

theorem AOk.wf {L B N : Nat} {al : List AFile} (h : AOk L al B N) (hB : B < 18446744073709551616) (hN : N < MAX_ITEM_AMOUNT)
    (hL : L < 18446744073709551616) : WF al :=
  { sorted := h.sorted
    secs := h.itemSecs
    good := h.good
    small := fun f hf => ⟨fun g hg => Nat.lt_of_le_of_lt (h.secsLe f hf g hg) hL, Nat.lt_of_le_of_lt (h.bytes f hf) hB⟩
    tails := fun f hf => by
      rw [(h.live f hf).1, (h.live f hf).2]
      exact ⟨List.not_mem_nil, Nat.zero_lt_succ 15⟩
    cap := Nat.lt_of_le_of_lt h.items hN }

/-- the last file is replaced by one whose group seconds continue with `ext`; `hN` is `N' ≥ N - |last.items| + |last'.items|` without
the subtraction -/
theorem AOk.modLast {L L' B B' N N' : Nat} {init : List AFile} {last last' : AFile} (h : AOk L (init ++ [last]) B N) (hL : L ≤ L')
    (hB : B ≤ B') (hx : FOk L' B' last') (ext : List Nat) (hsecs : last'.groups.map (·.1) = last.groups.map (·.1) ++ ext)
    (hext : ext.Pairwise (· ≤ ·) ∧ ∀ s ∈ ext, L ≤ s) (hN : N + last'.items.length ≤ N' + last.items.length) :
    AOk L' (init ++ [last']) B' N' := by
  refine AOk.iff_fok.mpr ⟨?_, ?_, ?_⟩
  · simp only [List.forall_mem_append, List.forall_mem_singleton]
    exact ⟨fun f hf => ((AOk.iff_fok.mp h).1 f (List.mem_append_left _ hf)).mono hL hB, hx⟩
  · have e : (init ++ [last']).flatMap (fun f => f.groups.map (·.1)) = (init ++ [last]).flatMap (fun f => f.groups.map (·.1)) ++ ext := by
      simp [hsecs]
    rw [e, List.pairwise_append]
    refine ⟨h.sorted, hext.1, fun a ha b hb => ?_⟩
    obtain ⟨f, hf, hfa⟩ := List.mem_flatMap.mp ha
    obtain ⟨g, hg, rfl⟩ := List.mem_map.mp hfa
    exact Nat.le_trans (h.secsLe f hf g hg) (hext.2 b hb)
  · have := h.items
    simp only [List.flatMap_append, List.flatMap_cons, List.flatMap_nil, List.append_nil, List.length_append] at this ⊢
    omega

theorem AFile.items_entry (last : AFile) (sec : Nat) : ({ last with groups := last.groups ++ [(sec, [])] } : AFile).items = last.items := by
  simp [AFile.items, groupsItems]

theorem AFile.items_lines {last : AFile} {gi : List Group} {gl : Group} (hg : last.groups = gi ++ [gl]) (items : List MItem) :
    ({ last with groups := gi ++ [(gl.1, gl.2 ++ items)] } : AFile).items = last.items ++ items := by
  simp [AFile.items, groupsItems, hg]

theorem AOk.entry {L B N : Nat} {init : List AFile} {last : AFile} (h : AOk L (init ++ [last]) B N) (sec : Nat) (hL : L ≤ sec) :
    AOk sec (init ++ [{ last with groups := last.groups ++ [(sec, [])] }]) B N := by
  have hl := (AOk.iff_fok.mp h).1 last (by simp)
  have hbytes : (groupsBytes (last.groups ++ [(sec, [])])).length ≤ B := by
    rw [groupsBytes_snoc_empty]
    exact hl.bytes
  have hext : [sec].Pairwise (· ≤ ·) ∧ ∀ s ∈ [sec], L ≤ s :=
    ⟨List.pairwise_singleton _ _, fun s hs => List.mem_singleton.mp hs ▸ hL⟩
  refine h.modLast hL (Nat.le_refl _) (hx := ⟨hl.live, ?_, hbytes⟩) (ext := [sec]) (hsecs := by simp) (hext := hext)
    (hN := Nat.le_of_eq (by rw [AFile.items_entry]))
  -- the old groups, then the new one, which holds no item yet
  simp only [List.forall_mem_append, List.forall_mem_singleton]
  exact ⟨fun g hg => ⟨Nat.le_trans (hl.groups g hg).1 hL, (hl.groups g hg).2⟩, Nat.le_refl _, fun _ hit => nomatch hit⟩

/-- the lines of `p`, the first few of `items` (all of them, or those a crash has left complete), under the counters for all of `items` -/
theorem AOk.lines {L B N : Nat} {init : List AFile} {last : AFile} {gi : List Group} {gl : Group} (h : AOk L (init ++ [last]) B N)
    (hg : last.groups = gi ++ [gl]) (items : List MItem) (hgood : ∀ it ∈ items, GoodItem it) (hsec : ∀ it ∈ items, secOf it = gl.1)
    {p : List MItem} (hp : p <+: items) :
    AOk L (init ++ [{ last with groups := gi ++ [(gl.1, gl.2 ++ p)] }]) (B + (items.flatMap lineBytes).length) (N + items.length) := by
  obtain ⟨rest, rfl⟩ := hp
  obtain ⟨hlive, hgs, hbytes⟩ := (AOk.iff_fok.mp h).1 last (by simp)
  simp only [hg, List.forall_mem_append, List.forall_mem_singleton] at hgs
  have hN : N + ({ last with groups := gi ++ [(gl.1, gl.2 ++ p)] } : AFile).items.length ≤ N + (p ++ rest).length + last.items.length := by
    rw [AFile.items_lines hg, List.length_append, List.length_append]
    omega
  refine h.modLast (Nat.le_refl _) (Nat.le_add_right _ _) (hx := ⟨hlive, ?_, ?_⟩) (ext := []) (hsecs := by simp [hg])
    (hext := ⟨List.Pairwise.nil, nofun⟩) (hN := hN)
  · simp only [List.forall_mem_append, List.forall_mem_singleton]
    exact ⟨hgs.1, hgs.2.1, hgs.2.2, fun it hi => ⟨hsec it (List.mem_append_left _ hi), hgood it (List.mem_append_left _ hi)⟩⟩
  · rw [hg] at hbytes
    simp only [groupsBytes_extend, List.flatMap_append, List.length_append]
    exact Nat.add_le_add hbytes (Nat.le_add_right _ _)

/-- for any `last'` that has the bytes, so that an index entry, lines and a torn tail are all instances -/
theorem repL_append {fs : FS} {init : List AFile} {last last' : AFile} (h : RepL fs (init ++ [last]))
    (hs : IdsSorted ((init ++ [last]).map (·.id))) (i : Bool) (bs : Bytes) (hid : last'.id = last.id)
    (hlog : last'.log = last.log ++ (if i then [] else bs)) (hidx : last'.idx = last.idx ++ (if i then bs else [])) :
    RepL (fs.applyAll [Act.append i last.id bs]) (init ++ [last']) := by
  -- `Dir.append_map_last` on the directory that gets the bytes, nothing on the other
  have happ : ∀ (φ : AFile → Bytes) (x : Bytes), φ last' = φ last ++ x →
      Dir.append ((init ++ [last]).map fun f => (f.id, φ f)) last.id x = (init ++ [last']).map fun f => (f.id, φ f) := by
    intro φ x hφ
    rw [Dir.append_map_last init last (·.id) φ hs, List.map_append, List.map_singleton, hid, hφ]
  have hsame : ∀ φ : AFile → Bytes, φ last' = φ last ++ [] →
      ((init ++ [last]).map fun f => (f.id, φ f)) = (init ++ [last']).map fun f => (f.id, φ f) := by
    intro φ hφ
    simp only [List.map_append, List.map_cons, List.map_nil, hid, hφ, List.append_nil]
  cases i
  · exact ⟨(congrArg (Dir.append · last.id bs) h.logs).trans (happ (·.log) bs hlog), h.idxs.trans (hsame (·.idx) hidx)⟩
  · exact ⟨h.logs.trans (hsame (·.log) hlog), (congrArg (Dir.append · last.id bs) h.idxs).trans (happ (·.idx) bs hidx)⟩

theorem repL_entry {fs : FS} {init : List AFile} {last : AFile} (h : RepL fs (init ++ [last])) (hs : IdsSorted ((init ++ [last]).map (·.id)))
    (hlive : last.tail = [] ∧ last.idxTail = []) (sec : Nat) :
    RepL (fs.applyAll [Act.append true last.id (be64 sec), Act.append true last.id (be64 last.log.length)])
      (init ++ [{ last with groups := last.groups ++ [(sec, [])] }]) := by
  rw [show [Act.append true last.id (be64 sec), Act.append true last.id (be64 last.log.length)] =
    [be64 sec, be64 last.log.length].map (Act.append true last.id) from rfl, applyAll_appends]
  -- the offset written, `be64 last.log.length`, is the offset `idxOf_snoc` computes, because `last.tail = []`
  exact repL_append h hs true _ rfl (by simp [AFile.log, groupsBytes_snoc_empty])
    (by simp [AFile.idx, AFile.log, hlive.1, hlive.2, idxOf_snoc, encEntry])

theorem map_append_lineBytes (id : FileId) (l : List MItem) :
    l.map (fun it => Act.append false id (lineBytes it)) = (l.map lineBytes).map (Act.append false id) :=
  (List.map_map ..).symm

theorem repL_lines {fs : FS} {init : List AFile} {last : AFile} {gi : List Group} {gl : Group} (h : RepL fs (init ++ [last]))
    (hs : IdsSorted ((init ++ [last]).map (·.id))) (hg : last.groups = gi ++ [gl]) (hlive : last.tail = []) (items : List MItem) :
    RepL (fs.applyAll (items.map (fun it => Act.append false last.id (lineBytes it))))
      (init ++ [{ last with groups := gi ++ [(gl.1, gl.2 ++ items)] }]) := by
  rw [map_append_lineBytes, applyAll_appends]
  refine repL_append h hs false _ rfl ?_ (by simp [AFile.idx, hg, idxOf_snoc])
  -- `groupsBytes_extend` leaves the pair `(gl.1, gl.2)` where `hg` has `gl`
  have e : (gi ++ [(gl.1, gl.2)]) = gi ++ [gl] := rfl
  simp [AFile.log, groupsBytes_extend, hg, hlive, e, List.flatMap_def]

/-- the directory is, file for file, the abstract log `al`; the ghost counters `B` / `N` bound the bytes of a file and the number of
items. `lastSec`: the last group of the current file is of second `latest`, because `writeTail` appends no index entry when
`sec = latest` and the file has lines, so the new lines must belong to that group -/
structure WInv (w : Writer) (fs : FS) (al : List AFile) (B N : Nat) : Prop where
  rep : RepL fs al
  ids : IdsSorted (al.map (·.id))
  cur : ∃ init last, al = init ++ [last] ∧ w.cur = some last.id
  days : ∀ f ∈ al, f.id.day ≤ dayOfSec w.latest
  aok : AOk w.latest al B N
  lastSec : ∀ init last, al = init ++ [last] → ∀ gi gl, last.groups = gi ++ [gl] → gl.1 = w.latest
  count : al.length ≤ w.maxFiles ∧ 0 < w.maxFiles

theorem WInv.mono {w : Writer} {fs : FS} {al : List AFile} {B N B' N' : Nat} (h : WInv w fs al B N) (hB : B ≤ B') (hN : N ≤ N') :
    WInv w fs al B' N' :=
  ⟨h.rep, h.ids, h.cur, h.days, h.aok.mono (Nat.le_refl _) hB hN, h.lastSec, h.count⟩

theorem length_drop_new (al : List AFile) (m : Nat) (hm : 0 < m) (x : AFile) : (al.drop (dropCount al.length m) ++ [x]).length ≤ m := by
  rw [List.length_append, List.length_drop, List.length_singleton]
  unfold dropCount
  split <;> omega

theorem WInv.cur_last {w : Writer} {fs : FS} {init : List AFile} {last : AFile} {B N : Nat} (h : WInv w fs (init ++ [last]) B N) :
    w.cur = some last.id := by
  obtain ⟨init', last', hal, hcur⟩ := h.cur
  rw [(List.append_singleton_inj.mp hal).2]
  exact hcur

theorem Writer.new_eq_some {fs : FS} {maxSize maxFiles nowMs : Nat} {w : Writer} {acts : List Act}
    (h : Writer.new fs maxSize maxFiles nowMs = some (w, acts)) :
    0 < maxFiles ∧ w = { maxSize := maxSize, maxFiles := maxFiles, latest := nowMs / 1000, cur := some (rollActs fs maxFiles nowMs).1 } ∧
      acts = (rollActs fs maxFiles nowMs).2 := by
  unfold Writer.new at h
  split at h
  · simp at h
  · simp only [Option.some.injEq, Prod.mk.injEq] at h
    exact ⟨by omega, h.1.symm, h.2.symm⟩

/-- for any writer `w'` that has moved on to the new file: the start of a writer and both roll-overs of a `write` -/
theorem roll_inv {fs : FS} {al : List AFile} {B N : Nat} (w' : Writer) (ts : Nat) (hrep : RepL fs al) (hids : IdsSorted (al.map (·.id)))
    (hd : ∀ f ∈ al, f.id.day ≤ dayOfSec (ts / 1000)) (haok : AOk w'.latest al B N) (hm : 0 < w'.maxFiles)
    (hlatest : w'.latest = ts / 1000) (hcur : w'.cur = some (rollActs fs w'.maxFiles ts).1) :
    WInv w' (fs.applyAll (rollActs fs w'.maxFiles ts).2)
      (al.drop (dropCount al.length w'.maxFiles) ++ [AFile.new (rollActs fs w'.maxFiles ts).1]) B N := by
  have hr := roll_runs fs al hrep hids w'.maxFiles ts hd
  refine ⟨hr.1.rep, hr.2.1, ⟨_, _, rfl, hcur⟩, ?_, (haok.drop _).snoc_new _, ?_, ⟨length_drop_new _ _ hm _, hm⟩⟩
  · intro f hf
    rw [hlatest]
    rcases List.mem_append.mp hf with h1 | h1
    · exact hd f (List.mem_of_mem_drop h1)
    · rw [List.mem_singleton.mp h1]
      exact Nat.le_of_eq hr.2.2
  · intro init last hal gi gl hg
    rw [← (List.append_singleton_inj.mp hal).2] at hg
    simp [AFile.new] at hg

theorem get?_last_log (fs : FS) (init : List AFile) (last : AFile) (h : RepL fs (init ++ [last])) (hs : IdsSorted ((init ++ [last]).map (·.id))) :
    fs.logs.get? last.id = some last.log :=
  get?_logDir h.logs hs (List.mem_append_right _ (List.mem_singleton_self last))

theorem get?_new_log {fs : FS} {al : List AFile} {id : FileId} (h : RepL fs (al ++ [AFile.new id]))
    (hs : IdsSorted ((al ++ [AFile.new id]).map (·.id))) : ((fs.logs.get? id).getD []).length = 0 := by
  rw [show id = (AFile.new id).id from rfl, get?_last_log fs al _ h hs]
  rfl

/-- a line is never empty: it ends in its terminator -/
theorem lineBytes_ne_nil (it : MItem) : lineBytes it ≠ [] := by simp [lineBytes]

/-- every branch of `write` leaves `latest` as it is, except the last, where `writeTail` ends with `max w.latest (ts / 1000)` whatever
directory and file it is given -/
theorem write_latest_le (w : Writer) (fs : FS) (ts : Nat) (items : List MItem) (M : Nat) (h1 : w.latest ≤ M) (h2 : ts / 1000 ≤ M) :
    (w.write fs ts items).1.latest ≤ M := by
  unfold Writer.write
  split
  · exact h1
  split
  · exact h1
  split
  · exact h1
  dsimp only
  split
  · exact h1
  · exact Nat.max_le.mpr ⟨h1, h2⟩

/-! ### write histories: the vocabulary of the end results -/

/-- the items of a call as they are written: with the call's timestamp -/
def stamp (ts : Nat) (items : List MItem) : List MItem := items.map (fun (it : MItem) => ({ it with ts := ts } : MItem))

/-- the items a `write` call adds to the log (none when the call is refused or ignored) -/
def accepted (w : Writer) (ts : Nat) (items : List MItem) : List MItem :=
  if items.isEmpty = true ∨ ts = 0 ∨ w.cur = none ∨ ts / 1000 < w.latest then []
  else items.map (fun (it : MItem) => ({ it with ts := ts } : MItem))

theorem accepted_eq (w : Writer) (ts : Nat) (items : List MItem) :
    accepted w ts items = if items.isEmpty = true ∨ ts = 0 ∨ w.cur = none ∨ ts / 1000 < w.latest then [] else stamp ts items := rfl

/-- a write history: `(ts, items)` per call. Result: the writer, the directory, and the items accepted on the way -/
def runWrites (w : Writer) (fs : FS) : List (Nat × List MItem) → Writer × FS × List MItem
  | [] => (w, fs, [])
  | (ts, items) :: rest =>
    let r := w.write fs ts items
    let t := runWrites r.1 (fs.applyAll r.2.1) rest
    (t.1, t.2.1, accepted w ts items ++ t.2.2)

/-- the bytes, and below the items, that a history hands to `write`, accepted or not: what the ghost counters of `WInv` reach -/
def histBytes : List (Nat × List MItem) → Nat
  | [] => 0
  | (ts, items) :: rest => ((stamp ts items).flatMap lineBytes).length + histBytes rest

def histItems : List (Nat × List MItem) → Nat
  | [] => 0
  | (_, items) :: rest => items.length + histItems rest

theorem run_latest_le (hist : List (Nat × List MItem)) (w : Writer) (fs : FS) (M : Nat) (h1 : w.latest ≤ M)
    (h2 : ∀ p ∈ hist, p.1 / 1000 ≤ M) :
    (runWrites w fs hist).1.latest ≤ M := by
  induction hist generalizing w fs with
  | nil => exact h1
  | cons p rest ih =>
    obtain ⟨ts, items⟩ := p
    simp only [runWrites]
    exact ih _ _ (write_latest_le w fs ts items M h1 (h2 (ts, items) (by simp))) (fun p hp => h2 p (by simp [hp]))

/-- from the writer's side to the reader's, for a live log: what the search theorems ask of a directory (`Crash.lean` crosses by
`AOk.wf` and `rep_of_repL` themselves) -/
theorem winv_rep_wf (w : Writer) (fs : FS) (al : List AFile) (B N : Nat) (h : WInv w fs al B N)
    (hB : B < 18446744073709551616) (hN : N < MAX_ITEM_AMOUNT) (hL : w.latest < 18446744073709551616) :
    Rep fs al ∧ WF al ∧ ∀ f ∈ al, f.tail = [] ∧ f.idxTail = [] :=
  ⟨rep_of_repL h.rep h.ids, h.aok.wf hB hN hL, h.aok.live⟩

end Sentinel.MLog
