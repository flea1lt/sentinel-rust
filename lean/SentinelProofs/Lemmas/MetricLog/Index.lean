import SentinelProofs.Lemmas.MetricLog.Bytes
import SentinelProofs.Lemmas.List
/-! A log file and its index, abstractly: a list of *groups*, one per index entry, each a second and the items whose lines follow
that entry. A search rests on two things: the index answers with the first group not before the begin second, and since seconds
are in order the Specs speak only of the items from that group on. (`groupsBytes_snoc_empty`, `groupsBytes_extend`, `idxOf_snoc` are
the writer's steps on groups.) -/
set_option autoImplicit false
namespace Sentinel.MLog
open Sentinel

abbrev Group := Nat × List MItem

/-- the lines of a group, of a file's groups; the items of a file's groups, in write order -/
def groupBytes (g : Group) : Bytes := g.2.flatMap lineBytes
def groupsBytes (gs : List Group) : Bytes := gs.flatMap groupBytes
def groupsItems (gs : List Group) : List MItem := gs.flatMap (·.2)

/-- the index file: one entry per group, holding the group's second and the offset at which its lines begin -/
def idxOf : Nat → List Group → Bytes
  | _, [] => []
  | off, g :: gs => encEntry (g.1, off) ++ idxOf (off + (groupBytes g).length) gs

/-- one log file with its index, abstractly; `tail` / `idxTail` are the torn bytes of a crash state (empty in a live log) -/
structure AFile where
  id : FileId
  groups : List Group
  tail : Bytes := []
  idxTail : Bytes := []

def AFile.log (f : AFile) : Bytes := groupsBytes f.groups ++ f.tail
def AFile.idx (f : AFile) : Bytes := idxOf 0 f.groups ++ f.idxTail
def AFile.items (f : AFile) : List MItem := groupsItems f.groups

/-- the model's `inWin`, `fromSec`, `absLines` write `it.ts / 1000`; proofs pass between the two forms by unfolding (`rfl`) -/
def secOf (it : MItem) : Nat := it.ts / 1000

/-- the directory holds exactly these files, in this order. `idxs`: a file's index is there, or it is absent and the file has no
groups yet (the state between the two creations of a roll-over) -/
structure Rep (fs : FS) (al : List AFile) : Prop where
  listing : fs.listLogs = al.map (·.id)
  logs : ∀ f ∈ al, fs.logs.get? f.id = some f.log
  idxs : ∀ f ∈ al, fs.idxs.get? f.id = some f.idx ∨ (fs.idxs.get? f.id = none ∧ f.groups = [])

/-- what the searches need of the files. `sorted`, `secs`, `tails` are kept by the writer; `good` is about the items handed to it;
`small` (2^64: the index stores seconds and offsets as `u64`) and `cap` (the reader's `MAX_ITEM_AMOUNT`) bound the history -/
structure WF (al : List AFile) : Prop where
  sorted : (al.flatMap (fun f => f.groups.map (·.1))).Pairwise (· ≤ ·)
  secs : ∀ f ∈ al, ∀ g ∈ f.groups, ∀ it ∈ g.2, secOf it = g.1
  good : ∀ f ∈ al, ∀ g ∈ f.groups, ∀ it ∈ g.2, GoodItem it
  small : ∀ f ∈ al, (∀ g ∈ f.groups, g.1 < 18446744073709551616) ∧ (groupsBytes f.groups).length < 18446744073709551616
  tails : ∀ f ∈ al, 10 ∉ f.tail ∧ f.idxTail.length < 16
  cap : (al.flatMap AFile.items).length < MAX_ITEM_AMOUNT

theorem splitLines_items (its : List MItem) (hg : ∀ it ∈ its, GoodItem it) (t : Bytes) :
    splitLines (its.flatMap lineBytes ++ t) = its.map lineOf ++ splitLines t := by
  induction its with
  | nil => simp
  | cons it rest ih =>
    simp only [List.flatMap_cons, lineBytes_eq, List.append_assoc, List.map_cons, List.cons_append]
    rw [splitLines_line _ _ (lineOf_no_nl it (hg it (by simp))), List.nil_append, ih (fun x hx => hg x (by simp [hx]))]

theorem groupsBytes_eq_items (gs : List Group) : groupsBytes gs = (groupsItems gs).flatMap lineBytes :=
  List.flatMap_assoc.symm

theorem groupsBytes_append (a b : List Group) : groupsBytes (a ++ b) = groupsBytes a ++ groupsBytes b := by
  simp [groupsBytes]

theorem idxOf_snoc (off : Nat) (gs : List Group) (g : Group) :
    idxOf off (gs ++ [g]) = idxOf off gs ++ encEntry (g.1, off + (groupsBytes gs).length) := by
  induction gs generalizing off with
  | nil => simp [idxOf, groupsBytes]
  | cons a r ih =>
    simp only [List.cons_append, idxOf, ih, List.append_assoc]
    congr 3
    simp [groupsBytes, Nat.add_assoc]

theorem groupsBytes_snoc_empty (gs : List Group) (sec : Nat) : groupsBytes (gs ++ [(sec, [])]) = groupsBytes gs := by
  simp [groupsBytes, groupBytes]

theorem groupsBytes_extend (gi : List Group) (s : Nat) (l items : List MItem) :
    groupsBytes (gi ++ [(s, l ++ items)]) = groupsBytes (gi ++ [(s, l)]) ++ items.flatMap lineBytes := by
  simp [groupsBytes, groupBytes, List.flatMap_append]

theorem splitLines_from (pre post : List Group) (t : Bytes) (ht : 10 ∉ t) (hg : ∀ it ∈ groupsItems post, GoodItem it) :
    splitLines ((groupsBytes (pre ++ post) ++ t).drop (groupsBytes pre).length) =
      (groupsItems post).map lineOf ++ (if t = [] then [] else [t]) := by
  rw [groupsBytes_append, List.append_assoc, List.drop_left, groupsBytes_eq_items post, splitLines_items _ hg t, splitLines_torn t ht]

theorem items_flatMap_groups (B : List AFile) : B.flatMap AFile.items = groupsItems (B.flatMap (·.groups)) :=
  List.flatMap_assoc.symm

/-- what the index of a file answers for a begin second -/
def firstOffset (gs : List Group) (bs : Nat) : Option (Nat × Nat) :=
  match gs.dropWhile (fun g => decide (g.1 < bs)) with
  | [] => none
  | g :: _ => some (g.1, (groupsBytes (gs.takeWhile (fun g => decide (g.1 < bs)))).length)

theorem firstOffset_cons (g : Group) (gs : List Group) (b : Nat) :
    firstOffset (g :: gs) b =
      if g.1 < b then (firstOffset gs b).map (fun p => (p.1, (groupBytes g).length + p.2)) else some (g.1, 0) := by
  unfold firstOffset
  by_cases h : g.1 < b
  · simp only [List.dropWhile_cons, List.takeWhile_cons, h, decide_true, if_true]
    cases gs.dropWhile (fun g => decide (g.1 < b)) with
    | nil => rfl
    | cons x r => simp [groupsBytes]
  · simp only [List.dropWhile_cons, List.takeWhile_cons, h, decide_false, if_false]; rfl

theorem findEntry_short (t : Bytes) (b : Nat) (h : t.length < 16) : findEntry t b = none := by
  unfold findEntry
  split
  · simp only [List.length_cons] at h; omega
  · rfl

theorem findEntry_cons (e : Nat × Nat) (rest : Bytes) (b : Nat) (h1 : e.1 < 18446744073709551616) (h2 : e.2 < 18446744073709551616) :
    findEntry (encEntry e ++ rest) b = if e.1 ≥ b then some e else findEntry rest b := by
  simp only [encEntry, be64, List.cons_append, List.nil_append]
  rw [findEntry, unbe8_digits e.1 h1, unbe8_digits e.2 h2]

theorem findEntry_idxOf (gs : List Group) (off b : Nat) (t : Bytes) (ht : t.length < 16)
    (hs : ∀ g ∈ gs, g.1 < 18446744073709551616) (ho : off + (groupsBytes gs).length < 18446744073709551616) :
    findEntry (idxOf off gs ++ t) b = (firstOffset gs b).map (fun p => (p.1, off + p.2)) := by
  induction gs generalizing off with
  | nil => exact findEntry_short t b ht
  | cons g rest ih =>
    have hlen : (groupsBytes (g :: rest)).length = (groupBytes g).length + (groupsBytes rest).length := by
      simp [groupsBytes]
    have hg : g.1 < 18446744073709551616 := hs g (List.mem_cons_self ..)
    have hoff : off < 18446744073709551616 := by omega
    have hrest : off + (groupBytes g).length + (groupsBytes rest).length < 18446744073709551616 := by omega
    rw [idxOf, List.append_assoc, findEntry_cons (g.1, off) _ b hg hoff, firstOffset_cons,
      ih _ (fun x hx => hs x (List.mem_cons_of_mem _ hx)) hrest]
    by_cases hb : g.1 < b
    · rw [if_neg (Nat.not_le.mpr hb), if_pos hb, Option.map_map]
      -- the offsets add up: `off + (|g| + p)` on one side, `(off + |g|) + p` on the other
      congr 1
      funext p
      exact Prod.ext rfl (Nat.add_assoc ..)
    · rw [if_pos (Nat.not_lt.mp hb), if_neg hb]
      rfl

theorem firstOffset_cases (gs : List Group) (b : Nat) :
    (firstOffset gs b = none ∧ ∀ g ∈ gs, g.1 < b) ∨
    ∃ pre g post, gs = pre ++ g :: post ∧ (∀ x ∈ pre, x.1 < b) ∧ b ≤ g.1 ∧ firstOffset gs b = some (g.1, (groupsBytes pre).length) := by
  unfold firstOffset
  rcases dropWhile_cases (fun g : Group => decide (g.1 < b)) gs with ⟨hd, hall⟩ | ⟨g, post, hd, hg, hl⟩
  · rw [hd]
    exact Or.inl ⟨rfl, fun g hg => of_decide_eq_true (hall g hg)⟩
  · rw [hd]
    exact Or.inr ⟨_, g, post, hl, fun x hx => of_decide_eq_true (List.all_eq_true.mp List.all_takeWhile x hx),
      Nat.le_of_not_lt (of_decide_eq_false hg), rfl⟩

theorem firstOffset_eq_none (gs : List Group) (b : Nat) : firstOffset gs b = none ↔ ∀ g ∈ gs, g.1 < b := by
  rcases firstOffset_cases gs b with ⟨hn, hlt⟩ | ⟨pre, g, post, rfl, _, hg, hs⟩
  · exact ⟨fun _ => hlt, fun _ => hn⟩
  · rw [hs]
    exact ⟨nofun, fun h => absurd (h g (by simp)) (by omega)⟩

theorem idx_lookup {fs : FS} {al : List AFile} (hrep : Rep fs al) (hwf : WF al) {f : AFile} (hf : f ∈ al) (bs : Nat) :
    (fs.idxs.get? f.id).bind (findEntry · bs) = firstOffset f.groups bs := by
  rcases hrep.idxs f hf with h | ⟨h, hg⟩
  · have hsmall : 0 + (groupsBytes f.groups).length < 18446744073709551616 := by
      rw [Nat.zero_add]
      exact (hwf.small f hf).2
    rw [h, Option.bind_some, AFile.idx, findEntry_idxOf f.groups 0 bs f.idxTail (hwf.tails f hf).2 (hwf.small f hf).1 hsmall]
    -- offsets counted from 0
    cases firstOffset f.groups bs with
    | none => rfl
    | some p => exact congrArg some (Prod.ext rfl (Nat.zero_add _))
  · rw [h, hg]; rfl

/-- the search starts nowhere (every group is earlier), or at group `g` of file `f`: `A` and `pre` are the files and the groups of `f`
in front of it, all earlier; `B` and `post` follow it; the answer names `f` and what follows, `g`'s second and `g`'s offset -/
theorem findStart_cases (fs : FS) (al : List AFile) (bs : Nat)
    (hidx : ∀ f ∈ al, (fs.idxs.get? f.id).bind (findEntry · bs) = firstOffset f.groups bs) :
    (findStart fs bs (al.map (·.id)) = none ∧ ∀ f ∈ al, ∀ g ∈ f.groups, g.1 < bs) ∨
    ∃ A f B pre g post, al = A ++ f :: B ∧ f.groups = pre ++ g :: post ∧
      (∀ x ∈ A, ∀ g' ∈ x.groups, g'.1 < bs) ∧ (∀ g' ∈ pre, g'.1 < bs) ∧ bs ≤ g.1 ∧
      findStart fs bs (al.map (·.id)) = some (f.id :: B.map (·.id), g.1, (groupsBytes pre).length) := by
  induction al with
  | nil => exact Or.inl ⟨rfl, nofun⟩
  | cons f rest ih =>
    simp only [List.map_cons, findStart, hidx f (List.mem_cons_self ..)]
    rcases firstOffset_cases f.groups bs with ⟨hn, hlt⟩ | ⟨pre, g, post, hgs, hpre, hg, hs⟩
    · rw [hn]
      rcases ih (fun x hx => hidx x (List.mem_cons_of_mem _ hx)) with ⟨h1, h2⟩ | ⟨A, f', B, pre, g, post, rfl, hgs, hA, hrest⟩
      · exact Or.inl ⟨h1, List.forall_mem_cons.mpr ⟨hlt, h2⟩⟩
      · exact Or.inr ⟨f :: A, f', B, pre, g, post, rfl, hgs, List.forall_mem_cons.mpr ⟨hlt, hA⟩, hrest⟩
    · rw [hs]
      exact Or.inr ⟨[], f, rest, pre, g, post, rfl, hgs, nofun, hpre, hg, rfl⟩

theorem stored_ts (it : MItem) : (stored it).ts = it.ts := rfl

theorem inWin_stored (bs es : Nat) (it : MItem) : inWin bs es (stored it) = inWin bs es it := rfl

theorem secOf_stored (it : MItem) : secOf (stored it) = secOf it := rfl

theorem groupsItems_sec (gs : List Group) (hs : ∀ g ∈ gs, ∀ it ∈ g.2, secOf it = g.1) (lo hi : Nat)
    (hb : ∀ g ∈ gs, lo ≤ g.1 ∧ g.1 ≤ hi) : ∀ it ∈ groupsItems gs, lo ≤ secOf it ∧ secOf it ≤ hi := by
  intro it hit
  obtain ⟨g, hg, hig⟩ := List.mem_flatMap.mp hit
  rw [hs g hg it hig]
  exact hb g hg

theorem groupsItems_sorted (gs : List Group) (hs : ∀ g ∈ gs, ∀ it ∈ g.2, secOf it = g.1)
    (hp : (gs.map (·.1)).Pairwise (· ≤ ·)) : (groupsItems gs).Pairwise (fun a b => secOf a ≤ secOf b) := by
  refine List.pairwise_flatMap.mpr ⟨fun g hg => ?_, (List.pairwise_map.mp hp).imp_of_mem ?_⟩
  · refine List.pairwise_of_forall_mem_list (fun a ha b hb => ?_)
    rw [hs g hg a ha, hs g hg b hb]
    exact Nat.le_refl _
  · intro g g' hg hg' hle a ha b hb
    rw [hs g hg a ha, hs g' hg' b hb]
    exact hle

/-- the three hypotheses of `spec_from`: the items in front of `g` are early, those from `g` on are not, and are sorted -/
theorem groupsItems_split (E : List Group) (g : Group) (L : List Group) (bs : Nat)
    (hs : ∀ x ∈ E ++ g :: L, ∀ it ∈ x.2, secOf it = x.1) (hp : ((E ++ g :: L).map (·.1)).Pairwise (· ≤ ·))
    (hE : ∀ x ∈ E, x.1 < bs) (hg : bs ≤ g.1) :
    (∀ it ∈ groupsItems E, secOf it < bs) ∧ (∀ it ∈ groupsItems (g :: L), bs ≤ secOf it) ∧
      (groupsItems (g :: L)).Pairwise (fun a b => secOf a ≤ secOf b) := by
  rw [List.map_append, List.pairwise_append] at hp
  have hs' : ∀ x ∈ g :: L, ∀ it ∈ x.2, secOf it = x.1 := fun x hx => hs x (List.mem_append_right _ hx)
  refine ⟨fun it hit => ?_, fun it hit => ?_, groupsItems_sorted _ hs' hp.2.1⟩
  · obtain ⟨x, hx, hix⟩ := List.mem_flatMap.mp hit
    rw [hs x (List.mem_append_left _ hx) it hix]
    exact hE x hx
  · obtain ⟨x, hx, hix⟩ := List.mem_flatMap.mp hit
    rw [hs' x hx it hix]
    rcases List.mem_cons.mp hx with e | e
    · rw [e]; exact hg
    · exact Nat.le_trans hg ((List.pairwise_cons.mp hp.2.1).1 x.1 (List.mem_map.mpr ⟨x, e, rfl⟩))

theorem WF.flatGroups {al : List AFile} (hwf : WF al) :
    (∀ x ∈ al.flatMap (·.groups), ∀ it ∈ x.2, secOf it = x.1) ∧ ((al.flatMap (·.groups)).map (·.1)).Pairwise (· ≤ ·) := by
  refine ⟨fun x hx => ?_, by rw [List.map_flatMap]; exact hwf.sorted⟩
  obtain ⟨f, hf, hxf⟩ := List.mem_flatMap.mp hx
  exact hwf.secs f hf x hxf

theorem filter_inRange (l : List MItem) (b e : Nat) (res : List Char) :
    l.filter (inRange b e res) = (l.filter (inWin (b / 1000) (e / 1000))).filter (resMatch res) := by
  rw [List.filter_filter]
  congr 1
  funext it
  simp [inRange, Bool.and_comm]

theorem specRange_fromSec (held : List MItem) (b e : Nat) (res : List Char) :
    specRange held b e res = specRange (fromSec held b) b e res := by
  unfold specRange fromSec
  rw [List.filter_filter]
  apply List.filter_congr
  intro it _
  by_cases h : b / 1000 ≤ it.ts / 1000 <;> simp [inRange, inWin, h]

/-- the range Spec read off what `fromSec` keeps when that is sorted, as `specLinesOk_of` (in `Read`) does for the line Spec -/
theorem specRange_of (held l : List MItem) (b : Nat) (hfrom : fromSec held b = l)
    (hsorted : l.Pairwise (fun x y => secOf x ≤ secOf y)) (e : Nat) (res : List Char) :
    specRange held b e res = (l.takeWhile (inWin (b / 1000) (e / 1000))).filter (resMatch res) := by
  subst hfrom
  rw [specRange_fromSec, specRange, filter_inRange, takeWhile_eq_filter]
  -- on a sorted list of items not before the begin second, an item in front of one in the window is in the window
  refine hsorted.imp_of_mem (fun {x y} hx _ hle hy => ?_)
  have hlo : b / 1000 ≤ secOf x := of_decide_eq_true (List.mem_filter.mp hx).2
  simp only [inWin, Bool.and_eq_true, decide_eq_true_eq] at hy ⊢
  exact ⟨hlo, Nat.le_trans hle hy.2⟩

/-- `h` is a hypothesis, not a substitution: the callers' `held` is `al.flatMap AFile.items`, which is an append only after rewriting -/
theorem spec_from (held early frm : List MItem) (b : Nat) (h : held = early ++ frm) (hearly : ∀ it ∈ early, secOf it < b / 1000)
    (hlo : ∀ it ∈ frm, b / 1000 ≤ secOf it) : fromSec (held.map stored) b = frm.map stored := by
  have h1 : (early.map stored).filter (fun it => decide (b / 1000 ≤ it.ts / 1000)) = [] := by
    rw [List.filter_eq_nil_iff, List.forall_mem_map]
    exact fun it hit hd => absurd (of_decide_eq_true hd) (Nat.not_le.mpr (hearly it hit))
  have h2 : (frm.map stored).filter (fun it => decide (b / 1000 ≤ it.ts / 1000)) = frm.map stored := by
    rw [List.filter_eq_self, List.forall_mem_map]
    exact fun it hit => decide_eq_true (hlo it hit)
  rw [h, fromSec, List.map_append, List.filter_append, h1, h2, List.nil_append]

end Sentinel.MLog
