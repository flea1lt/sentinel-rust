import SentinelProofs.Lemmas.MetricLog.Index
/-!
The two readers on a well-formed directory. Both are followed through files of which only the last may end in a torn line; a live
directory is the case of an empty tail. The first file of a read (from an offset) and the following ones (from 0) share one step.
-/
set_option autoImplicit false
namespace Sentinel.MLog
open Sentinel

/-- `linesLoop` on parsed items -/
def absLines (n prev : Nat) : List MItem → Nat → List MItem → ReadRes
  | [], _, acc => ⟨acc.reverse, decide (prev + acc.length < n)⟩
  | it :: rest, lastSec, acc =>
    if prev + acc.length ≥ n ∧ it.ts / 1000 ≠ lastSec then ⟨acc.reverse, false⟩ else absLines n prev rest (it.ts / 1000) (it :: acc)

/-- beyond the first `n` items everything lies in the second of the `n`-th -/
def Whole (n : Nat) (P : List MItem) : Prop := ∀ it ∈ P.drop n, ∀ l, (P.take n).getLast? = some l → secOf it = secOf l

theorem Whole.nil (n : Nat) : Whole n [] := fun _ hit => absurd (List.drop_nil ▸ hit) List.not_mem_nil

/-- only if `X` already has `n` items is `it` beyond the first `n`; then it is compared with the `n`-th through the last of `X`, which is
the `n`-th itself (`|X| = n`) or lies beyond it and is covered by `hw` -/
theorem Whole.snoc {n : Nat} {X : List MItem} (hn : 1 ≤ n) (hw : Whole n X) (it : MItem)
    (h : n ≤ X.length → ∀ l, X.getLast? = some l → secOf it = secOf l) : Whole n (X ++ [it]) := by
  intro x hx l hl
  by_cases hge : n ≤ X.length
  · rw [List.take_append_of_le_length hge] at hl
    rw [List.drop_append_of_le_length hge] at hx
    rcases List.mem_append.mp hx with h1 | h1
    · exact hw x h1 l hl
    · rw [List.mem_singleton.mp h1]
      have hne : X ≠ [] := by
        intro e
        rw [e, List.length_nil] at hge
        omega
      rw [h hge _ (List.getLast?_eq_some_getLast hne)]
      by_cases hc : X.length ≤ n
      · rw [List.take_of_length_le hc, List.getLast?_eq_some_getLast hne] at hl
        rw [Option.some.inj hl]
      · have hd : (X.drop n).getLast? = some (X.getLast hne) := by
          rw [List.getLast?_drop, if_neg hc, List.getLast?_eq_some_getLast hne]
        exact hw _ (List.mem_of_getLast? hd) l hl
  · have hshort : (X ++ [it]).length ≤ n := by
      rw [List.length_append, List.length_singleton]
      omega
    rw [List.drop_eq_nil_of_le hshort] at hx
    exact absurd hx (List.not_mem_nil)

/-- `P0` is what the files read before hold, `acc` what this loop has taken so far (newest first), `lastSec` the second of the last
item of both. The loop takes a prefix `Q` of `its`; `Whole`, and the two clauses on `cont` (went on: everything taken and still
short of `n`; stopped: `n` reached) are what `specLinesOk_of` asks of the answer. -/
theorem absLines_spec (n : Nat) (hn : 1 ≤ n) (its : List MItem) (P0 : List MItem) (lastSec : Nat) (acc : List MItem)
    (hlast : ∀ l, (P0 ++ acc.reverse).getLast? = some l → lastSec = secOf l) (hw : Whole n (P0 ++ acc.reverse)) :
    ∃ Q, (absLines n P0.length its lastSec acc).items = acc.reverse ++ Q ∧ Q <+: its ∧ Whole n (P0 ++ acc.reverse ++ Q) ∧
      ((absLines n P0.length its lastSec acc).cont = true → Q = its ∧ (P0 ++ acc.reverse ++ Q).length < n) ∧
      ((absLines n P0.length its lastSec acc).cont = false → (P0 ++ acc.reverse ++ Q).length ≥ n) := by
  have hlen : ∀ a : List MItem, (P0 ++ a.reverse).length = P0.length + a.length := by intro a; simp
  induction its generalizing lastSec acc with
  | nil =>
    refine ⟨[], by simp [absLines], List.prefix_refl _, by simpa using hw, ?_, ?_⟩
    · intro h
      simp only [absLines, decide_eq_true_eq] at h
      rw [List.append_nil, hlen]
      exact ⟨rfl, h⟩
    · intro h
      simp only [absLines, decide_eq_false_iff_not] at h
      rw [List.append_nil, hlen]
      omega
  | cons it rest ih =>
    simp only [absLines]
    by_cases hstop : P0.length + acc.length ≥ n ∧ it.ts / 1000 ≠ lastSec
    · rw [if_pos hstop]
      refine ⟨[], by simp, List.nil_prefix, by simpa using hw, by simp, ?_⟩
      intro _
      rw [List.append_nil, hlen]
      exact hstop.1
    · rw [if_neg hstop]
      have hrev : P0 ++ (it :: acc).reverse = P0 ++ acc.reverse ++ [it] := by rw [List.reverse_cons, List.append_assoc]
      -- an item taken although the count is reached lies in the second of the one before it
      have hw' : Whole n (P0 ++ (it :: acc).reverse) := hrev ▸ hw.snoc hn it fun hge l hl => by
        rw [← hlast l hl]
        exact Decidable.byContradiction fun e => hstop ⟨hlen acc ▸ hge, e⟩
      have hlast' : ∀ l, (P0 ++ (it :: acc).reverse).getLast? = some l → it.ts / 1000 = secOf l := by
        intro l hl
        rw [hrev, List.getLast?_concat] at hl
        -- `secOf it` is `it.ts / 1000` by definition
        exact congrArg secOf (Option.some.inj hl)
      obtain ⟨Q, h1, h2, h3, h4, h5⟩ := ih (it.ts / 1000) (it :: acc) hlast' hw'
      rw [hrev, List.append_assoc] at h3 h4 h5
      have hitems : (absLines n P0.length rest (it.ts / 1000) (it :: acc)).items = acc.reverse ++ it :: Q := by
        rw [h1, List.reverse_cons, List.append_assoc]
        rfl
      exact ⟨it :: Q, hitems, (List.prefix_cons_inj it).mpr h2, h3, fun hc => ⟨congrArg (it :: ·) (h4 hc).1, (h4 hc).2⟩, h5⟩

theorem latestSecond_spec (P : List MItem) : ∀ l, P.getLast? = some l → latestSecond P = secOf l := by
  intro l hl; simp [latestSecond, hl, secOf]

/-- the three clauses of `specLinesOk` from: `R` is a prefix of the sorted list `l` the Spec reads, long enough or all of it, and
`Whole`. For the last clause an item of `R` is among the first `n` (then sortedness) or beyond them (then `Whole`). -/
theorem specLinesOk_of (held l R : List MItem) (b n : Nat) (hn : 1 ≤ n) (hfrom : fromSec held b = l)
    (hsorted : l.Pairwise (fun a b => secOf a ≤ secOf b)) (hpre : R <+: l) (hlen : R.length ≥ n ∨ R = l) (hw : Whole n R) :
    specLinesOk held b n R = true := by
  unfold specLinesOk
  simp only [hfrom]
  have h1 : (R == l.take R.length) = true := by
    rw [beq_iff_eq]; exact List.prefix_iff_eq_take.mp hpre
  have h2 : decide (R.length ≥ min n l.length) = true := by
    rw [decide_eq_true_eq]
    rcases hlen with h | h
    · exact Nat.le_trans (Nat.min_le_left _ _) h
    · rw [h]; exact Nat.min_le_right _ _
  rw [h1, h2, Bool.true_and, Bool.true_and]
  obtain ⟨k, rfl⟩ : ∃ k, n = k + 1 := ⟨n - 1, by omega⟩
  simp only [Nat.add_sub_cancel]
  cases hk : l[k]? with
  | none => rfl
  | some last =>
    obtain ⟨hklt, rfl⟩ := List.getElem?_eq_some_iff.mp hk
    have hRlen : R.length ≥ k + 1 := by
      rcases hlen with h | h
      · exact h
      · rw [h]; omega
    have hRtake : R.take (k + 1) = l.take (k + 1) := by
      rw [List.prefix_iff_eq_take.mp hpre, List.take_take, Nat.min_eq_left hRlen]
    have hlastR : (R.take (k + 1)).getLast? = some l[k] := by
      rw [hRtake, List.getLast?_take]
      simp [hk]
    simp only [List.all_eq_true, decide_eq_true_eq]
    intro it hit
    rw [← List.take_append_drop (k + 1) R, List.mem_append, hRtake] at hit
    rcases hit with h | h
    · obtain ⟨i, hi, rfl⟩ := List.mem_take_iff_getElem.mp h
      rcases Nat.lt_or_ge i k with hik | hik
      · exact List.pairwise_iff_getElem.mp hsorted i k _ hklt hik
      · obtain rfl : i = k := by omega
        exact Nat.le_refl _
    · exact Nat.le_of_eq (hw it h _ hlastR)

/-- where a search for begin time `b` starts. `frm` is what the files hold from the start on: a suffix of the held items (for the item
cap), all that `fromSec` keeps, and sorted: from these two `specRange_of` and `specLinesOk_of` read the Specs. Last conjunct: nothing
found and `frm = []`, or the group at which `findStart` points. -/
theorem start_decomp (fs : FS) (al : List AFile) (hrep : Rep fs al) (hwf : WF al) (b : Nat) :
    ∃ frm : List MItem, frm <:+ al.flatMap AFile.items ∧
      fromSec ((al.flatMap AFile.items).map stored) b = frm.map stored ∧
      (frm.map stored).Pairwise (fun x y => secOf x ≤ secOf y) ∧
      ((findStart fs (b / 1000) (al.map (·.id)) = none ∧ frm = []) ∨
        ∃ A f B pre g post, al = A ++ f :: B ∧ f.groups = pre ++ g :: post ∧
          findStart fs (b / 1000) (al.map (·.id)) = some (f.id :: B.map (·.id), g.1, (groupsBytes pre).length) ∧
          frm = groupsItems (g :: post) ++ B.flatMap AFile.items) := by
  rcases findStart_cases fs al (b / 1000) (fun f hf => idx_lookup hrep hwf hf _) with
    ⟨hnone, hlt⟩ | ⟨A, f, B, pre, g, post, hal, hgs, hA, hpre, hg, hfs⟩
  · have hearly : ∀ it ∈ al.flatMap AFile.items, secOf it < b / 1000 := by
      intro it hit
      obtain ⟨f, hf, hif⟩ := List.mem_flatMap.mp hit
      obtain ⟨g, hg, hig⟩ := List.mem_flatMap.mp hif
      rw [hwf.secs f hf g hg it hig]
      exact hlt f hf g hg
    exact ⟨[], List.nil_suffix, spec_from _ _ [] b (List.append_nil _).symm hearly nofun, List.Pairwise.nil, Or.inl ⟨hnone, rfl⟩⟩
  · have hG : al.flatMap (·.groups) = (A.flatMap (·.groups) ++ pre) ++ g :: (post ++ B.flatMap (·.groups)) := by
      rw [hal]; simp [hgs]
    have hE : ∀ x ∈ A.flatMap (·.groups) ++ pre, x.1 < b / 1000 := by
      intro x hx
      rcases List.mem_append.mp hx with h | h
      · obtain ⟨y, hy, hxy⟩ := List.mem_flatMap.mp h
        exact hA y hy x hxy
      · exact hpre x h
    have hflat := hwf.flatGroups
    rw [hG] at hflat
    have hsplit := groupsItems_split _ g _ (b / 1000) hflat.1 hflat.2 hE hg
    have h2 : groupsItems (g :: (post ++ B.flatMap (·.groups))) = groupsItems (g :: post) ++ B.flatMap AFile.items := by
      rw [items_flatMap_groups]; simp [groupsItems]
    have hitems : al.flatMap AFile.items = groupsItems (A.flatMap (·.groups) ++ pre) ++ groupsItems (g :: (post ++ B.flatMap (·.groups))) := by
      rw [items_flatMap_groups, hG]; simp [groupsItems]
    rw [h2] at hsplit hitems
    exact ⟨_, hitems ▸ List.suffix_append _ _, spec_from _ _ _ b hitems hsplit.1 hsplit.2.1,
      List.Pairwise.map stored (fun _ _ h => h) hsplit.2.2, Or.inr ⟨A, f, B, pre, g, post, hal, hgs, hfs, rfl⟩⟩

/-- the reader's two tests on an item are the Spec's `inWin` and `resMatch` -/
theorem not_inWin_iff (bs es : Nat) (it : MItem) : (it.ts / 1000 < bs ∨ it.ts / 1000 > es) ↔ ¬ inWin bs es it = true := by
  simp only [inWin, Bool.and_eq_true, decide_eq_true_eq]
  omega

theorem resMatch_iff (res : List Char) (it : MItem) : (res.isEmpty = true ∨ res = it.resource) ↔ resMatch res it = true := by
  simp [resMatch]

/-- the loop of `read_metrics_one_file_by_end_time` over the lines of good items, in one equation: it goes on into `tail` if all are in
the window, else it stops at the first that is not. `hcap`: the reader's `MAX_ITEM_AMOUNT` cut-off never fires (the callers bound the
items of the whole directory) -/
theorem rangeLoop_good (bs es : Nat) (res : List Char) (prev : Nat) (its : List MItem) (tail : List Bytes) (acc : List MItem)
    (hg : ∀ it ∈ its, GoodItem it) (hcap : prev + acc.length + its.length < MAX_ITEM_AMOUNT) :
    rangeLoop bs es res prev (its.map lineOf ++ tail) acc =
      if (its.map stored).all (inWin bs es) then
        rangeLoop bs es res prev tail (((its.map stored).filter (resMatch res)).reverse ++ acc)
      else ⟨acc.reverse ++ (((its.map stored).takeWhile (inWin bs es)).filter (resMatch res)), false⟩ := by
  induction its generalizing acc with
  | nil => simp
  | cons it rest ih =>
    rw [List.length_cons] at hcap
    have hrest := fun x hx => hg x (List.mem_cons_of_mem _ hx)
    rw [List.map_cons, List.map_cons, List.cons_append, rangeLoop, parseLine_dropLastCR it (hg it (List.mem_cons_self ..))]
    simp only [not_inWin_iff, resMatch_iff, List.all_cons, List.takeWhile_cons]
    cases hw : inWin bs es (stored it)
    · simp
    · rw [if_neg (fun h => h rfl), Bool.true_and, if_pos rfl]
      -- the item is taken or not; the cut-off does not fire either way
      cases hm : resMatch res (stored it)
      · rw [if_neg Bool.false_ne_true, if_neg (by omega), ih acc hrest (by omega), List.filter_cons_of_neg (by simp [hm]),
          List.filter_cons_of_neg (by simp [hm])]
      · rw [if_pos rfl, if_neg (by rw [List.length_cons]; omega), ih _ hrest (by rw [List.length_cons]; omega),
          List.filter_cons_of_pos hm, List.filter_cons_of_pos hm, List.reverse_cons, List.append_assoc, List.reverse_cons,
          List.append_assoc]
        rfl

/-- what is left after the complete lines of a file is the torn line `t`, if any: `extra` is that line misread as at most one more
item. The same `extra` runs through all the statements below -/
theorem rangeLoop_tornLine (bs es : Nat) (res : List Char) (prev : Nat) (t : Bytes) (acc : List MItem) :
    ∃ extra, extra.length ≤ 1 ∧ (rangeLoop bs es res prev (if t = [] then [] else [t]) acc).items = acc.reverse ++ extra ∧
      (t = [] → extra = [] ∧ (rangeLoop bs es res prev (if t = [] then [] else [t]) acc).cont = true) := by
  by_cases ht : t = []
  · rw [if_pos ht]
    exact ⟨[], Nat.zero_le _, (List.append_nil _).symm, fun _ => ⟨rfl, rfl⟩⟩
  · rw [if_neg ht]
    -- whichever way the loop ends, it returns the reverse of `acc` or of `x :: acc`
    have hend : ∀ (c : Prop) [Decidable c] (a : List MItem),
        (if c then (⟨a.reverse, false⟩ : ReadRes) else ⟨a.reverse, true⟩).items = a.reverse := by
      intro c _ a
      split <;> rfl
    simp only [rangeLoop]
    cases parseLine (dropLastCR t) with
    | none => exact ⟨[], Nat.zero_le _, (List.append_nil _).symm, fun e => absurd e ht⟩
    | some x =>
      dsimp only
      by_cases hout : x.ts / 1000 < bs ∨ x.ts / 1000 > es
      · rw [if_pos hout]
        exact ⟨[], Nat.zero_le _, (List.append_nil _).symm, fun e => absurd e ht⟩
      · rw [if_neg hout]
        by_cases hm : res.isEmpty = true ∨ res = x.resource
        · rw [if_pos hm, hend, List.reverse_cons]
          exact ⟨[x], Nat.le_refl _, rfl, fun e => absurd e ht⟩
        · rw [if_neg hm, hend]
          exact ⟨[], Nat.zero_le _, (List.append_nil _).symm, fun e => absurd e ht⟩

/-- one file read from the group boundary `pre`: `t` is its torn tail (`[]` in a live file) -/
theorem rangeOneFile_spec (gs pre post : List Group) (hsplit : gs = pre ++ post) (t : Bytes) (ht : 10 ∉ t) (bs es : Nat) (res : List Char)
    (prev : Nat) (hg : ∀ it ∈ groupsItems post, GoodItem it) (hcap : prev + (groupsItems post).length < MAX_ITEM_AMOUNT) :
    ∃ extra, extra.length ≤ 1 ∧
      (rangeOneFile (groupsBytes gs ++ t) (groupsBytes pre).length bs es res prev).items =
        (((groupsItems post).map stored).takeWhile (inWin bs es)).filter (resMatch res) ++ extra ∧
      (t = [] → extra = [] ∧ (rangeOneFile (groupsBytes gs ++ t) (groupsBytes pre).length bs es res prev).cont =
        ((groupsItems post).map stored).all (inWin bs es)) := by
  rw [rangeOneFile, hsplit, splitLines_from pre post t ht hg,
    rangeLoop_good bs es res prev (groupsItems post) _ [] hg (by simpa using hcap)]
  by_cases hall : ((groupsItems post).map stored).all (inWin bs es) = true
  · rw [if_pos hall, takeWhile_all _ _ hall, hall]
    obtain ⟨extra, he, hr, h0⟩ := rangeLoop_tornLine bs es res prev t
      ((((groupsItems post).map stored).filter (resMatch res)).reverse ++ [])
    exact ⟨extra, he, by simpa using hr, h0⟩
  · rw [if_neg hall]
    exact ⟨[], by simp, by simp, fun _ => ⟨rfl, by simpa using hall⟩⟩

/-- files as a reader meets them one after the other, of which only the last may end in a torn line -/
structure TornLast (fs : FS) (L : List AFile) : Prop where
  logs : ∀ x ∈ L, fs.logs.get? x.id = some x.log
  live : ∀ x ∈ L.dropLast, x.tail = []
  tails : ∀ x ∈ L, 10 ∉ x.tail
  good : ∀ x ∈ L, ∀ it ∈ x.items, GoodItem it

theorem TornLast.of_cons {fs : FS} {f g : AFile} {more : List AFile} (h : TornLast fs (f :: g :: more)) :
    f.tail = [] ∧ TornLast fs (g :: more) :=
  ⟨h.live f List.mem_cons_self,
   fun x hx => h.logs x (List.mem_cons_of_mem _ hx), fun x hx => h.live x (List.mem_cons_of_mem _ hx),
   fun x hx => h.tails x (List.mem_cons_of_mem _ hx), fun x hx => h.good x (List.mem_cons_of_mem _ hx)⟩

theorem TornLast.of_rep {fs : FS} {al A L : List AFile} (hrep : Rep fs al) (hwf : WF al) (htorn : ∀ f ∈ al.dropLast, f.tail = [])
    (hal : al = A ++ L) (hne : L ≠ []) : TornLast fs L := by
  have hmem : ∀ x ∈ L, x ∈ al := fun x hx => hal ▸ List.mem_append_right _ hx
  refine ⟨fun x hx => hrep.logs x (hmem x hx), fun x hx => htorn x ?_, fun x hx => (hwf.tails x (hmem x hx)).1, fun x hx it hit => ?_⟩
  · rw [hal, List.dropLast_append_of_ne_nil hne]
    exact List.mem_append_right _ hx
  · obtain ⟨g, hg, hig⟩ := List.mem_flatMap.mp hit
    exact hwf.good x (hmem x hx) g hg it hig

theorem TornLast.good_post {fs : FS} {f : AFile} {B : List AFile} (h : TornLast fs (f :: B)) {pre post : List Group}
    (hgs : f.groups = pre ++ post) : ∀ it ∈ groupsItems post, GoodItem it := fun it hit =>
  h.good f List.mem_cons_self it (by rw [AFile.items, hgs, groupsItems, List.flatMap_append]; exact List.mem_append_right _ hit)

/-- stated on the `if` that `readRange` (first file, from an offset) and `rangeRest` (following files, `pre = []`) both end in. The proof
calls the theorem itself on the following files (structural recursion on `B`) -/
theorem range_cons (fs : FS) (bs es : Nat) (res : List Char) (B : List AFile) (f : AFile) (pre post : List Group)
    (hgs : f.groups = pre ++ post) (h : TornLast fs (f :: B)) (items : List MItem)
    (hcap : items.length + (groupsItems post).length + (B.flatMap AFile.items).length < MAX_ITEM_AMOUNT) :
    ∃ extra, extra.length ≤ 1 ∧ ((∀ x ∈ f :: B, x.tail = []) → extra = []) ∧
      (if (rangeOneFile f.log (groupsBytes pre).length bs es res items.length).cont then
          rangeRest fs bs es res (B.map (·.id)) (items ++ (rangeOneFile f.log (groupsBytes pre).length bs es res items.length).items)
        else some (items ++ (rangeOneFile f.log (groupsBytes pre).length bs es res items.length).items)) =
      some (items ++ (((groupsItems post ++ B.flatMap AFile.items).map stored).takeWhile (inWin bs es)).filter (resMatch res) ++ extra) := by
  obtain ⟨extra, he, hr, h0⟩ := rangeOneFile_spec f.groups pre post hgs f.tail (h.tails f List.mem_cons_self) bs es res items.length
    (h.good_post hgs) (by omega)
  cases B with
  | nil =>
    refine ⟨extra, he, fun hl => (h0 (hl f List.mem_cons_self)).1, ?_⟩
    simp only [AFile.log, hr, List.map_nil, rangeRest, ite_self, List.flatMap_nil, List.append_nil, List.append_assoc]
  | cons g more =>
    obtain ⟨hf, hrest⟩ := h.of_cons
    obtain ⟨rfl, hc⟩ := h0 hf
    simp only [AFile.log, hr, hc, List.append_nil, List.flatMap_cons, List.map_append]
    have hlen : ((g :: more).flatMap AFile.items).length = (groupsItems g.groups).length + (more.flatMap AFile.items).length := by
      rw [List.flatMap_cons, List.length_append]
      rfl
    by_cases hall : ((groupsItems post).map stored).all (inWin bs es) = true
    · rw [if_pos hall, takeWhile_all _ _ hall, List.takeWhile_append_of_pos (List.all_eq_true.mp hall)]
      have hle : (((groupsItems post).map stored).filter (resMatch res)).length ≤ (groupsItems post).length :=
        Nat.le_trans (List.length_filter_le _ _) (by simp)
      obtain ⟨extra, he, hl, hrr⟩ := range_cons fs bs es res more g [] g.groups rfl hrest
        (items ++ ((groupsItems post).map stored).filter (resMatch res)) (by rw [List.length_append]; omega)
      refine ⟨extra, he, fun hl' => hl (fun x hx => hl' x (List.mem_cons_of_mem _ hx)), ?_⟩
      simp only [List.map_cons, rangeRest, h.logs g (by simp), List.length_append]
      rw [show (groupsBytes []).length = 0 from rfl, List.length_append] at hrr
      simpa only [AFile.items, List.append_assoc, List.map_append, List.filter_append] using hrr
    · rw [if_neg hall, takeWhile_append_neg _ _ _ (by simpa using hall)]
      exact ⟨[], by simp, fun _ => rfl, by simp⟩

/-- unlike `rangeLoop_good` not an equation that goes on into the torn line: `absLines` returns a result, not the state of the loop, so
the torn line `t` is dealt with where the items end -/
theorem linesLoop_spec (n prev : Nat) (its : List MItem) (t : Bytes) (lastSec : Nat) (acc : List MItem)
    (hg : ∀ it ∈ its, GoodItem it) :
    ∃ extra, extra.length ≤ 1 ∧
      (linesLoop n prev (its.map lineOf ++ (if t = [] then [] else [t])) lastSec acc).items =
        (absLines n prev (its.map stored) lastSec acc).items ++ extra ∧
      (t = [] → extra = [] ∧ (linesLoop n prev (its.map lineOf ++ (if t = [] then [] else [t])) lastSec acc).cont =
        (absLines n prev (its.map stored) lastSec acc).cont) := by
  induction its generalizing lastSec acc with
  | nil =>
    by_cases ht : t = []
    · rw [if_pos ht]
      exact ⟨[], Nat.zero_le _, (List.append_nil _).symm, fun _ => ⟨rfl, rfl⟩⟩
    · rw [if_neg ht]
      simp only [List.map_nil, List.nil_append, linesLoop, absLines]
      cases parseLine (dropAllCR t) with
      | none => exact ⟨[], Nat.zero_le _, (List.append_nil _).symm, fun e => absurd e ht⟩
      | some x =>
        dsimp only
        split
        · exact ⟨[], Nat.zero_le _, (List.append_nil _).symm, fun e => absurd e ht⟩
        · exact ⟨[x], Nat.le_refl _, List.reverse_cons, fun e => absurd e ht⟩
  | cons it rest ih =>
    simp only [List.map_cons, List.cons_append, linesLoop, absLines, parseLine_dropAllCR it (hg it (List.mem_cons_self ..))]
    split
    · exact ⟨[], Nat.zero_le _, (List.append_nil _).symm, fun _ => ⟨rfl, rfl⟩⟩
    · exact ih _ _ (fun x hx => hg x (List.mem_cons_of_mem _ hx))

/-- one file read from the group boundary `pre`, as `rangeOneFile_spec` -/
theorem linesOneFile_spec (gs pre post : List Group) (hsplit : gs = pre ++ post) (t : Bytes) (ht : 10 ∉ t) (n lastSec prev : Nat)
    (hg : ∀ it ∈ groupsItems post, GoodItem it) :
    ∃ extra, extra.length ≤ 1 ∧
      (linesOneFile (groupsBytes gs ++ t) (groupsBytes pre).length n lastSec prev).items =
        (absLines n prev ((groupsItems post).map stored) lastSec []).items ++ extra ∧
      (t = [] → extra = [] ∧ (linesOneFile (groupsBytes gs ++ t) (groupsBytes pre).length n lastSec prev).cont =
        (absLines n prev ((groupsItems post).map stored) lastSec []).cont) := by
  rw [linesOneFile, hsplit, splitLines_from pre post t ht hg]
  exact linesLoop_spec n prev (groupsItems post) t lastSec [] hg

/-- stated on the `if` that `readLines` and `linesRest` both end in, and proved by recursion on `B`, as `range_cons`. The last three conjuncts are the hypotheses
`hpre`, `hw`, `hlen` of `specLinesOk_of`; the `simpa … using` below only re-bracket appends. -/
theorem lines_cons (fs : FS) (n : Nat) (hn : 1 ≤ n) (B : List AFile) (f : AFile) (pre post : List Group)
    (hgs : f.groups = pre ++ post) (h : TornLast fs (f :: B)) (P : List MItem) (hw : Whole n P) :
    ∃ Q extra, extra.length ≤ 1 ∧ ((∀ x ∈ f :: B, x.tail = []) → extra = []) ∧
      (if (linesOneFile f.log (groupsBytes pre).length n (latestSecond P) P.length).cont then
          linesRest fs n (B.map (·.id)) (P ++ (linesOneFile f.log (groupsBytes pre).length n (latestSecond P) P.length).items)
        else some (P ++ (linesOneFile f.log (groupsBytes pre).length n (latestSecond P) P.length).items)) = some (P ++ Q ++ extra) ∧
      Q <+: (groupsItems post ++ B.flatMap AFile.items).map stored ∧ Whole n (P ++ Q) ∧
      ((P ++ Q).length ≥ n ∨ Q = (groupsItems post ++ B.flatMap AFile.items).map stored) := by
  obtain ⟨Q, q1, q2, q3, q4, q5⟩ := absLines_spec n hn ((groupsItems post).map stored) P (latestSecond P) []
    (by simpa using latestSecond_spec P) (by simpa using hw)
  simp only [List.reverse_nil, List.nil_append, List.append_nil] at q1 q3 q4 q5
  obtain ⟨extra, he, hr, h0⟩ := linesOneFile_spec f.groups pre post hgs f.tail (h.tails f List.mem_cons_self) n (latestSecond P) P.length
    (h.good_post hgs)
  cases B with
  | nil =>
    refine ⟨Q, extra, he, fun hl => (h0 (hl f List.mem_cons_self)).1, ?_, by simpa using q2, q3, ?_⟩
    · simp only [AFile.log, hr, q1, List.map_nil, linesRest, ite_self, List.append_assoc]
    · cases hc : (absLines n P.length ((groupsItems post).map stored) (latestSecond P) []).cont with
      | true => right; simp [(q4 hc).1]
      | false => exact Or.inl (q5 hc)
  | cons g more =>
    obtain ⟨hf, hrest⟩ := h.of_cons
    obtain ⟨rfl, hc⟩ := h0 hf
    simp only [AFile.log, hr, hc, q1, List.append_nil, List.flatMap_cons, List.map_append]
    cases hcont : (absLines n P.length ((groupsItems post).map stored) (latestSecond P) []).cont with
    | true =>
      obtain ⟨rfl, hlt⟩ := q4 hcont
      obtain ⟨Q2, extra, he, hl, hrr, r2, r3, r4⟩ := lines_cons fs n hn more g [] g.groups rfl hrest
        (P ++ (groupsItems post).map stored) q3
      refine ⟨(groupsItems post).map stored ++ Q2, extra, he, fun hl' => hl (fun x hx => hl' x (List.mem_cons_of_mem _ hx)), ?_,
        (List.prefix_append_right_inj _).mpr (by simpa [AFile.items] using r2), by simpa [List.append_assoc] using r3, ?_⟩
      · simp only [if_true, List.map_cons, linesRest, if_neg (Nat.not_le.mpr hlt), h.logs g (by simp)]
        rw [show (groupsBytes []).length = 0 from rfl] at hrr
        simpa only [List.append_assoc] using hrr
      · rcases r4 with h | h
        · left; simpa [List.append_assoc] using h
        · right; simp [h, AFile.items]
    | false =>
      exact ⟨Q, [], by simp, fun _ => rfl, by simp, List.IsPrefix.trans q2 (List.prefix_append _ _), q3, Or.inl (q5 hcont)⟩

/-- `read_metrics_in_one_file` on a file that ends in a torn line: the torn line is misread as at most one more item. This and the
next are `linesLoop_spec`, `linesOneFile_spec` without their clause for `t = []` -/
theorem linesLoop_torn (n prev : Nat) (its : List MItem) (t : Bytes) (lastSec : Nat) (acc : List MItem) (hg : ∀ it ∈ its, GoodItem it) :
    ∃ extra c, extra.length ≤ 1 ∧
      linesLoop n prev (its.map lineOf ++ (if t = [] then [] else [t])) lastSec acc =
        ⟨(absLines n prev (its.map stored) lastSec acc).items ++ extra, c⟩ := by
  obtain ⟨extra, he, hr, _⟩ := linesLoop_spec n prev its t lastSec acc hg
  exact ⟨extra, (linesLoop n prev _ lastSec acc).cont, he, by rw [← hr]⟩

theorem linesOneFile_torn (gs pre post : List Group) (hsplit : gs = pre ++ post) (t : Bytes) (ht : 10 ∉ t) (n lastSec prev : Nat)
    (hg : ∀ it ∈ groupsItems post, GoodItem it) :
    ∃ extra c, extra.length ≤ 1 ∧
      linesOneFile (groupsBytes gs ++ t) (groupsBytes pre).length n lastSec prev =
        ⟨(absLines n prev ((groupsItems post).map stored) lastSec []).items ++ extra, c⟩ := by
  obtain ⟨extra, he, hr, _⟩ := linesOneFile_spec gs pre post hsplit t ht n lastSec prev hg
  exact ⟨extra, (linesOneFile _ _ n lastSec prev).cont, he, by rw [← hr]⟩

/-- the same for the continuation of `read_metrics` over the following files: `lines_cons` at the head of `B`, without its clause for
live files -/
theorem linesRest_torn (fs : FS) (n : Nat) (hn : 1 ≤ n) (B : List AFile) (hlogs : ∀ f ∈ B, fs.logs.get? f.id = some f.log)
    (htorn : ∀ f ∈ B.dropLast, f.tail = []) (htails : ∀ f ∈ B, 10 ∉ f.tail)
    (hgood : ∀ f ∈ B, ∀ it ∈ f.items, GoodItem it) (P : List MItem) (hw : Whole n P) :
    ∃ Q extra, extra.length ≤ 1 ∧ linesRest fs n (B.map (·.id)) P = some (P ++ Q ++ extra) ∧
      Q <+: (B.flatMap AFile.items).map stored ∧ Whole n (P ++ Q) ∧
      ((P ++ Q).length ≥ n ∨ Q = (B.flatMap AFile.items).map stored) := by
  cases B with
  | nil => exact ⟨[], [], by simp, by simp [linesRest], by simp, by simpa using hw, Or.inr (by simp)⟩
  | cons f rest =>
    simp only [List.map_cons, linesRest]
    by_cases hfull : P.length ≥ n
    · rw [if_pos hfull]
      exact ⟨[], [], by simp, by simp, List.nil_prefix, by simpa using hw, Or.inl (by simpa using hfull)⟩
    · rw [if_neg hfull, hlogs f (by simp)]
      obtain ⟨Q, extra, he, _, hr, r⟩ := lines_cons fs n hn rest f [] f.groups rfl ⟨hlogs, htorn, htails, hgood⟩ P hw
      exact ⟨Q, extra, he, hr, r⟩

end Sentinel.MLog
