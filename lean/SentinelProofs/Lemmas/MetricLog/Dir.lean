import Sentinel.MetricLog
/-! Directories as association lists `al.map (fun f => (idOf f, φ f))` over a list `al` of abstract files with increasing ids
(`IdsSorted`), hence distinct ones; action lists applied to a file system (appends to one file, taken together, are one append
of all the bytes) and their crash prefixes. -/
set_option autoImplicit false
namespace Sentinel.MLog
open Sentinel

theorem FileId.lt_iff (a b : FileId) : a.lt b = true ↔ a.day < b.day ∨ (a.day = b.day ∧ a.no < b.no) := by
  simp only [FileId.lt, Bool.or_eq_true, decide_eq_true_eq, Bool.and_eq_true, beq_iff_eq]

theorem FileId.lt_irrefl (a : FileId) : a.lt a = false := by
  apply Bool.eq_false_iff.mpr
  intro h
  rw [FileId.lt_iff] at h
  omega

theorem FileId.lt_trans {a b c : FileId} (h1 : a.lt b = true) (h2 : b.lt c = true) : a.lt c = true := by
  rw [FileId.lt_iff] at *
  omega

def IdsSorted (ids : List FileId) : Prop := ids.Pairwise (fun a b => a.lt b = true)

theorem nodup_of_sorted (l : List FileId) (hs : IdsSorted l) : l.Nodup := by
  refine List.Pairwise.imp (fun {a b} h e => ?_) hs
  rw [e, FileId.lt_irrefl] at h
  exact Bool.false_ne_true h

theorem foldr_insertId_sorted (l : List FileId) (h : IdsSorted l) : l.foldr insertId [] = l := by
  induction l with
  | nil => rfl
  | cons a r ih =>
    have hp := List.pairwise_cons.mp h
    rw [List.foldr_cons, ih hp.2]
    cases r with
    | nil => rfl
    | cons g gs => simp [insertId, hp.1 g (by simp)]

theorem sorted_le_last (l : List FileId) (hs : IdsSorted l) (x last : FileId) (hl : l.getLast? = some last) (hx : x ∈ l) :
    x = last ∨ x.lt last = true := by
  obtain ⟨ys, rfl⟩ := List.getLast?_eq_some_iff.mp hl
  rcases List.mem_append.mp hx with h | h
  · exact Or.inr ((List.pairwise_append.mp hs).2.2 x h last (List.mem_singleton_self _))
  · exact Or.inl (List.mem_singleton.mp h)

theorem sorted_snoc (l : List FileId) (hs : IdsSorted l) (x : FileId) (hx : ∀ g ∈ l, g.lt x = true) : IdsSorted (l ++ [x]) := by
  unfold IdsSorted
  rw [List.pairwise_append]
  refine ⟨hs, by simp, ?_⟩
  intro a ha b hb
  simp only [List.mem_singleton] at hb
  rw [hb]
  exact hx a ha

theorem Dir.get?_cons (k : FileId) (v : Bytes) (d : Dir) (x : FileId) :
    Dir.get? ((k, v) :: d) x = if k = x then some v else Dir.get? d x := by
  unfold Dir.get?
  rw [List.find?_cons]
  by_cases h : k = x <;> simp [h]

/-- looking up a member of a mapped list with increasing ids -/
theorem Dir.get?_map_mem {β} (al : List β) (idOf : β → FileId) (φ : β → Bytes) (hs : IdsSorted (al.map idOf)) (x : β) (hx : x ∈ al) :
    Dir.get? (al.map (fun f => (idOf f, φ f))) (idOf x) = some (φ x) := by
  induction al with
  | nil => simp at hx
  | cons a r ih =>
    rw [List.map_cons, Dir.get?_cons]
    rcases List.mem_cons.mp hx with rfl | e
    · rw [if_pos rfl]
    · have hne : idOf a ≠ idOf x := fun h =>
        (List.nodup_cons.mp (nodup_of_sorted _ hs)).1 (h ▸ List.mem_map.mpr ⟨x, e, rfl⟩)
      rw [if_neg hne, ih (List.pairwise_cons.mp hs).2 e]

theorem Dir.get?_map_not_mem {β} (al : List β) (idOf : β → FileId) (φ : β → Bytes) (x : FileId) (hx : x ∉ al.map idOf) :
    Dir.get? (al.map (fun f => (idOf f, φ f))) x = none := by
  induction al with
  | nil => rfl
  | cons a r ih =>
    rw [List.map_cons, List.mem_cons, not_or] at hx
    rw [List.map_cons, Dir.get?_cons, if_neg (fun e => hx.1 e.symm), ih hx.2]

theorem Dir.erase_map_not_mem {β} (al : List β) (idOf : β → FileId) (φ : β → Bytes) (x : FileId) (hx : x ∉ al.map idOf) :
    Dir.erase (al.map (fun f => (idOf f, φ f))) x = al.map (fun f => (idOf f, φ f)) := by
  unfold Dir.erase
  rw [List.filter_eq_self]
  intro p hp
  obtain ⟨f, hf, rfl⟩ := List.mem_map.mp hp
  have : idOf f ≠ x := fun e => hx (List.mem_map.mpr ⟨f, hf, e⟩)
  simpa using this

theorem Dir.erase_map_head {β} (a : β) (r : List β) (idOf : β → FileId) (φ : β → Bytes) (hs : IdsSorted ((a :: r).map idOf)) :
    Dir.erase ((a :: r).map (fun f => (idOf f, φ f))) (idOf a) = r.map (fun f => (idOf f, φ f)) := by
  have hr := Dir.erase_map_not_mem r idOf φ (idOf a) (List.nodup_cons.mp (nodup_of_sorted _ hs)).1
  unfold Dir.erase at hr ⊢
  rw [List.map_cons, List.filter_cons_of_neg (by simp), hr]

theorem applyAll_append (fs : FS) (a b : List Act) : fs.applyAll (a ++ b) = (fs.applyAll a).applyAll b :=
  List.foldl_append

/-- appending to the last file of a mapped list with increasing ids changes the last pair only -/
theorem Dir.append_map_last {β} (init : List β) (last : β) (idOf : β → FileId) (φ : β → Bytes)
    (hs : IdsSorted ((init ++ [last]).map idOf)) (bs : Bytes) :
    Dir.append ((init ++ [last]).map (fun f => (idOf f, φ f))) (idOf last) bs =
      init.map (fun f => (idOf f, φ f)) ++ [(idOf last, φ last ++ bs)] := by
  have hnd := nodup_of_sorted _ hs
  rw [List.map_append, List.nodup_append] at hnd
  unfold Dir.append
  rw [List.map_append, List.map_append, List.map_map]
  congr 1
  · apply List.map_congr_left
    intro f hf
    exact if_neg (hnd.2.2 _ (List.mem_map.mpr ⟨f, hf, rfl⟩) _ (List.mem_singleton_self _))
  · exact congrArg (· :: []) (if_pos rfl)

theorem Dir.append_append (d : Dir) (f : FileId) (a b : Bytes) : (d.append f a).append f b = d.append f (a ++ b) := by
  unfold Dir.append
  rw [List.map_map]
  apply List.map_congr_left
  intro p _
  by_cases h : p.1 = f <;> simp [h]

theorem Dir.append_nil (d : Dir) (f : FileId) : d.append f [] = d := by
  unfold Dir.append
  rw [List.map_congr_left (g := id), List.map_id]
  intro p _
  rw [List.append_nil]
  exact ite_self p

theorem applyAll_append_no_bytes (fs : FS) (i : Bool) (f : FileId) : fs.applyAll [Act.append i f []] = fs := by
  cases i <;> simp [FS.applyAll, FS.apply, Dir.append_nil]

theorem applyAll_appends (fs : FS) (i : Bool) (f : FileId) (bss : List Bytes) :
    fs.applyAll (bss.map (Act.append i f)) = fs.applyAll [Act.append i f bss.flatten] := by
  induction bss generalizing fs with
  | nil => exact (applyAll_append_no_bytes fs i f).symm
  | cons a r ih =>
    simp only [List.map_cons, FS.applyAll, List.foldl_cons, List.foldl_nil] at ih ⊢
    rw [ih]
    cases i <;> simp [FS.apply, Dir.append_append]

theorem applyAll_appends_snoc (fs : FS) (i : Bool) (f : FileId) (bss : List Bytes) (t : Bytes) :
    (fs.applyAll (bss.map (Act.append i f))).applyAll [Act.append i f t] = fs.applyAll [Act.append i f (bss.flatten ++ t)] := by
  rw [← applyAll_append, show [Act.append i f t] = [t].map (Act.append i f) from rfl, ← List.map_append, applyAll_appends,
    List.flatten_append, List.flatten_singleton]

/-- dying in `a ++ b` is dying in `a`, or in `b` after all of `a` -/
theorem crash_append (fs : FS) (a b : List Act) (C : FS → Prop) (ha : ∀ k j, C (fs.applyAll (crashPrefix a k j)))
    (hb : ∀ k j, C ((fs.applyAll a).applyAll (crashPrefix b k j))) (k j : Nat) : C (fs.applyAll (crashPrefix (a ++ b) k j)) := by
  unfold crashPrefix at *
  by_cases h : k < a.length
  · rw [List.take_append_of_le_length (by omega), List.getElem?_append_left h]
    exact ha k j
  · have hk : a.take k = a := List.take_of_length_le (by omega)
    rw [List.take_append, List.getElem?_append_right (by omega), hk, List.append_assoc, applyAll_append]
    exact hb (k - a.length) j

theorem crashPrefix_nil (k j : Nat) : crashPrefix [] k j = [] := by simp [crashPrefix]

/-- `ha`, `hb`: neither action is an append, so a crash cannot cut it: the crash prefixes of `[a, b]` are the three whole prefixes -/
theorem crash_pair (fs : FS) (a b : Act) (ha : ∀ j, a.cut j = []) (hb : ∀ j, b.cut j = []) (C : FS → Prop)
    (h0 : C fs) (h1 : C (fs.apply a)) (h2 : C ((fs.apply a).apply b)) (k j : Nat) : C (fs.applyAll (crashPrefix [a, b] k j)) := by
  match k with
  | 0 => simpa [crashPrefix, ha, FS.applyAll] using h0
  | 1 => simpa [crashPrefix, hb, FS.applyAll] using h1
  | k + 2 => simpa [crashPrefix, FS.applyAll] using h2

end Sentinel.MLog
