import SentinelProofs.Lemmas.MetricLog.Crash
import SentinelProofs.Lemmas.MetricLog.Read
import SentinelProofs.Lemmas.MetricLog.Cache
/-! The helper lemmas for C19, by layer. -/
set_option autoImplicit false
