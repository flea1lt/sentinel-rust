import Sentinel.LeapArray
/-!
Generic ring refinement (DESIGN §5.2): bucket arithmetic, the ring invariant and its preservation by
`ringWrite` and by resetting selected slots (`RingInv.clear`). Payload-generic: `β` with reset value `zero`, events `ε`
applied by `app`.
-/
set_option autoImplicit false
namespace Sentinel

namespace Geo
theorem start_le (g : Geo) (t : Nat) : g.start t ≤ t := Nat.sub_le _ _

theorem start_eq_mul (g : Geo) (t : Nat) : g.start t = g.L * (t / g.L) := Nat.mul_div_self_eq_mod_sub_self.symm

theorem start_mod (g : Geo) (t : Nat) : g.start t % g.L = 0 := by
  rw [start_eq_mul]; exact Nat.mul_mod_right _ _

theorem start_div (g : Geo) (t : Nat) : g.start t / g.L = t / g.L := Nat.div_eq_sub_mod_div.symm

theorem idx_start (g : Geo) (hL : 0 < g.L) (t : Nat) : g.idx (g.start t) = g.idx t := by
  unfold idx; rw [start_div]

theorem idx_lt (g : Geo) (hn : 0 < g.n) (t : Nat) : g.idx t < g.n := Nat.mod_lt _ hn

theorem start_mono (g : Geo) {a b : Nat} (h : a ≤ b) : g.start a ≤ g.start b := by
  rw [start_eq_mul, start_eq_mul]; exact Nat.mul_le_mul_left _ (Nat.div_le_div_right h)

theorem lt_start_add (g : Geo) (hL : 0 < g.L) (t : Nat) : t < g.start t + g.L := by
  unfold start
  have := Nat.mod_lt t hL
  have := Nat.mod_le t g.L
  omega

/-- two bucket starts in the same slot, strictly ordered, are a whole interval apart -/
theorem same_slot_gap (g : Geo) {a b : Nat} (ha : a % g.L = 0) (hb : b % g.L = 0)
    (hi : g.idx a = g.idx b) (hlt : a < b) : a + g.interval ≤ b := by
  obtain ⟨qa, rfl⟩ := Nat.dvd_of_mod_eq_zero ha
  obtain ⟨qb, rfl⟩ := Nat.dvd_of_mod_eq_zero hb
  have hL : 0 < g.L := by
    apply Nat.pos_of_ne_zero
    intro h
    rw [h, Nat.zero_mul, Nat.zero_mul] at hlt
    exact Nat.lt_irrefl _ hlt
  have hq : qa < qb := Nat.lt_of_mul_lt_mul_left hlt
  unfold idx at hi
  rw [Nat.mul_div_cancel_left _ hL, Nat.mul_div_cancel_left _ hL] at hi
  have hge : g.n ≤ qb - qa :=
    Nat.le_of_dvd (Nat.sub_pos_of_lt hq) (Nat.dvd_of_mod_eq_zero (Nat.sub_mod_eq_zero_of_mod_eq hi.symm))
  have : g.L * (qa + g.n) ≤ g.L * qb := Nat.mul_le_mul_left _ (by omega)
  rw [Nat.mul_add, Nat.mul_comm g.L g.n] at this
  exact this

/-- a whole interval later is the same slot again (used where a stamp one interval below `start now` is excluded after a write) -/
theorem idx_add_interval (g : Geo) (hL : 0 < g.L) (t : Nat) : g.idx (t + g.interval) = g.idx t := by
  unfold idx interval
  rw [Nat.add_mul_div_right _ _ hL, Nat.add_mod_right]

/-- bucket starts less than a bucket apart are in order (pins an aligned stamp to the one bucket start an interval admits) -/
theorem le_of_aligned_lt_add (g : Geo) {a b : Nat} (ha : a % g.L = 0) (hb : b % g.L = 0) (h : a < b + g.L) : a ≤ b := by
  obtain ⟨qa, rfl⟩ := Nat.dvd_of_mod_eq_zero ha
  obtain ⟨qb, rfl⟩ := Nat.dvd_of_mod_eq_zero hb
  rw [← Nat.mul_succ] at h
  exact Nat.mul_le_mul_left _ (Nat.le_of_lt_succ (Nat.lt_of_mul_lt_mul_left h))
end Geo

section Generic
variable {β ε : Type}

/-- the value a bucket has according to the history: the events of that bucket applied oldest first
to the reset value (history lists the newest event first) -/
def bucketVal (app : β → ε → β) (zero : β) (g : Geo) (evs : List (Nat × ε)) (b : Nat) : β :=
  (evs.filter (fun e => g.start e.1 = b)).foldr (fun e acc => app acc e.2) zero

theorem bucketVal_cons (app : β → ε → β) (zero : β) (g : Geo) (e : Nat × ε) (evs : List (Nat × ε)) (b : Nat) :
    bucketVal app zero g (e :: evs) b =
      if g.start e.1 = b then app (bucketVal app zero g evs b) e.2 else bucketVal app zero g evs b := by
  unfold bucketVal
  by_cases h : g.start e.1 = b <;> simp [h]

theorem bucketVal_no_events (app : β → ε → β) (zero : β) (g : Geo) (evs : List (Nat × ε)) (b : Nat)
    (h : ∀ e ∈ evs, g.start e.1 ≠ b) : bucketVal app zero g evs b = zero := by
  unfold bucketVal
  have : evs.filter (fun e => g.start e.1 = b) = [] := by
    apply List.filter_eq_nil_iff.mpr
    intro e he hc
    exact h e he (by simpa using hc)
  rw [this]; rfl

theorem bucketVal_filter (app : β → ε → β) (zero : β) (g : Geo) (evs : List (Nat × ε)) (q : Nat → Bool) (b : Nat) :
    bucketVal app zero g (evs.filter (fun e => q (g.start e.1))) b = if q b then bucketVal app zero g evs b else zero := by
  split
  · next hq =>
    unfold bucketVal
    rw [List.filter_filter]
    congr 1
    apply List.filter_congr
    intro e _
    by_cases hc : g.start e.1 = b
    · rw [hc, hq, Bool.and_true]
    · rw [decide_eq_false hc, Bool.false_and]
  · next hq =>
    apply bucketVal_no_events
    intro e he hc
    rw [← hc] at hq
    exact hq (List.mem_filter.mp he).2

/-- the ring `r` against the history `evs` (newest first), none of whose events is after `tl`. Stamp 0 is the code's "never used"
marker, so bucket starts of events are positive. `newest`: an event is resident or has been overwritten, never ahead of its slot -/
structure RingInv (app : β → ε → β) (zero : β) (g : Geo) (r : List (Slot β)) (evs : List (Nat × ε)) (tl : Nat) : Prop where
  len : r.length = g.n
  slot : ∀ i, i < g.n → (slotAt zero r i).stamp ≠ 0 →
      (slotAt zero r i).stamp % g.L = 0 ∧ g.idx (slotAt zero r i).stamp = i ∧ (slotAt zero r i).stamp ≤ g.start tl
  val : ∀ i, i < g.n → (slotAt zero r i).val =
      if (slotAt zero r i).stamp = 0 then zero else bucketVal app zero g evs (slotAt zero r i).stamp
  newest : ∀ e ∈ evs, 0 < g.start e.1 ∧ g.start e.1 ≤ (slotAt zero r (g.idx e.1)).stamp
  times : ∀ e ∈ evs, e.1 ≤ tl

theorem RingInv.mono {app : β → ε → β} {zero : β} {g : Geo} {r : List (Slot β)} {evs : List (Nat × ε)} {tl t : Nat}
    (h : RingInv app zero g r evs tl) (ht : tl ≤ t) : RingInv app zero g r evs t :=
  { len := h.len
    slot := fun i hi hne =>
      have ⟨hmod, hidx, hle⟩ := h.slot i hi hne
      ⟨hmod, hidx, Nat.le_trans hle (g.start_mono ht)⟩
    val := h.val
    newest := h.newest
    times := fun e he => Nat.le_trans (h.times e he) ht }

/-- also for stamp 0: the reset value is what the history gives "bucket 0", where no event lives -/
theorem RingInv.val_eq {app : β → ε → β} {zero : β} {g : Geo} {r : List (Slot β)} {evs : List (Nat × ε)} {tl : Nat}
    (hinv : RingInv app zero g r evs tl) (i : Nat) (hi : i < g.n) :
    (slotAt zero r i).val = bucketVal app zero g evs (slotAt zero r i).stamp := by
  rw [hinv.val i hi]
  split
  · next h =>
    rw [h]
    exact (bucketVal_no_events app zero g evs 0 (fun e he => by have := (hinv.newest e he).1; omega)).symm
  · rfl

theorem slotAt_set_eq (zero : β) (r : List (Slot β)) (i : Nat) (v : Slot β) (h : i < r.length) :
    slotAt zero (r.set i v) i = v := by
  unfold slotAt
  rw [List.getD_eq_getElem?_getD, List.getElem?_set_self h]
  rfl

theorem slotAt_set_ne (zero : β) (r : List (Slot β)) (i j : Nat) (v : Slot β) (h : i ≠ j) :
    slotAt zero (r.set i v) j = slotAt zero r j := by
  unfold slotAt
  rw [List.getD_eq_getElem?_getD, List.getD_eq_getElem?_getD, List.getElem?_set_ne h]

/-- `hf`: beyond the end of the list `slotAt` returns the default slot -/
theorem slotAt_map (zero : β) (r : List (Slot β)) (f : Slot β → Slot β) (i : Nat) (hf : f ⟨0, zero⟩ = ⟨0, zero⟩) :
    slotAt zero (r.map f) i = f (slotAt zero r i) := by
  unfold slotAt
  rw [List.getD_eq_getElem?_getD, List.getD_eq_getElem?_getD, List.getElem?_map]
  cases r[i]? with
  | none => exact hf.symm
  | some s => rfl

theorem slotAt_ringInit (zero : β) (g : Geo) (i : Nat) : slotAt zero (ringInit zero g) i = ⟨0, zero⟩ := by
  unfold slotAt ringInit
  rw [List.getD_eq_getElem?_getD, List.getElem?_replicate]
  split <;> rfl

theorem ring_inv_init (app : β → ε → β) (zero : β) (g : Geo) (t0 : Nat) :
    RingInv app zero g (ringInit zero g) [] t0 :=
  { len := List.length_replicate
    slot := fun i _ h => absurd (by rw [slotAt_ringInit]) h
    val := fun i _ => by
      rw [slotAt_ringInit]
      rfl
    newest := nofun
    times := nofun }

/-- every write at a time not earlier than the last one succeeds and preserves the invariant -/
theorem ring_inv_write (app : β → ε → β) (zero : β) (g : Geo) (hn : 0 < g.n) (hL : 0 < g.L)
    (r : List (Slot β)) (evs : List (Nat × ε)) (tl t : Nat) (x : ε)
    (hinv : RingInv app zero g r evs tl) (ht : tl ≤ t) (hpos : 0 < g.start t) :
    ∃ r', ringWrite zero g r t (fun b => app b x) = some r' ∧ RingInv app zero g r' ((t, x) :: evs) t := by
  have hinvt := hinv.mono ht
  have hi : g.idx t < g.n := g.idx_lt hn t
  have hil : g.idx t < r.length := hinvt.len ▸ hi
  -- no old event lives in bucket `start t` unless the slot already carries that stamp: for such an event `newest` gives
  -- `start t ≤ stamp`, and `slot` (after `mono`) gives `stamp ≤ start t`
  have hfresh : (slotAt zero r (g.idx t)).stamp ≠ g.start t → bucketVal app zero g evs (g.start t) = zero := by
    intro hne
    apply bucketVal_no_events
    intro e he hc
    have hnw := hinvt.newest e he
    have hidx : g.idx e.1 = g.idx t := by rw [← g.idx_start hL e.1, hc, g.idx_start hL]
    rw [hidx, hc] at hnw
    have := hinvt.slot _ hi (by omega)
    omega
  -- so every branch of the write stores `start t` with the bucket's old value, `x` applied
  have hwrite : ringWrite zero g r t (fun b => app b x)
      = some (r.set (g.idx t) ⟨g.start t, app (bucketVal app zero g evs (g.start t)) x⟩) := by
    have hval := hinvt.val (g.idx t) hi
    unfold ringWrite
    dsimp only
    by_cases h0 : (slotAt zero r (g.idx t)).stamp = 0
    · rw [if_pos h0, hval, if_pos h0, hfresh (by omega)]
    · rw [if_neg h0]
      by_cases h1 : (slotAt zero r (g.idx t)).stamp = g.start t
      · rw [if_pos h1, hval, if_neg h0, h1]
      · have := hinvt.slot _ hi h0
        rw [if_neg h1, if_pos (by omega), hfresh h1]
  refine ⟨_, hwrite, ?_⟩
  refine
    { len := ?len
      slot := fun i hi' hne => ?slot
      val := fun i hi' => ?val
      newest := fun e he => ?newest
      times := fun e he => ?times }
  case len =>
    rw [List.length_set]
    exact hinvt.len
  case slot =>
    by_cases hij : g.idx t = i
    · subst hij
      rw [slotAt_set_eq _ _ _ _ hil]
      exact ⟨g.start_mod t, g.idx_start hL t, Nat.le_refl _⟩
    · rw [slotAt_set_ne _ _ _ _ _ hij] at hne ⊢
      exact hinvt.slot i hi' hne
  case val =>
    by_cases hij : g.idx t = i
    · subst hij
      have hne0 : g.start t ≠ 0 := by omega
      rw [slotAt_set_eq _ _ _ _ hil, bucketVal_cons, if_neg hne0, if_pos rfl]
    · rw [slotAt_set_ne _ _ _ _ _ hij, hinvt.val i hi']
      split
      · rfl
      · next hz =>
        rw [bucketVal_cons, if_neg]
        intro heq
        exact hij (by rw [← (hinvt.slot i hi' hz).2.1, ← heq, g.idx_start hL])
  case newest =>
    by_cases hij : g.idx t = g.idx e.1
    · rw [← hij, slotAt_set_eq _ _ _ _ hil]
      rcases List.mem_cons.mp he with rfl | he'
      · exact ⟨hpos, Nat.le_refl _⟩
      · exact ⟨(hinvt.newest e he').1, g.start_mono (hinvt.times e he')⟩
    · rw [slotAt_set_ne _ _ _ _ _ hij]
      rcases List.mem_cons.mp he with rfl | he'
      · exact absurd rfl hij
      · exact hinvt.newest e he'
  case times =>
    rcases List.mem_cons.mp he with rfl | he'
    · exact Nat.le_refl _
    · exact hinvt.times e he'

/-- `c` is the code's filter on stamps, `p` the Spec's predicate on bucket starts; they need to agree on the ring's stamps only -/
theorem RingInv.clear {app : β → ε → β} {zero : β} {g : Geo} {r : List (Slot β)} {evs : List (Nat × ε)} {tl : Nat}
    (h : RingInv app zero g r evs tl) (hn : 0 < g.n) (c p : Nat → Bool)
    (hcp : ∀ i, i < g.n → c (slotAt zero r i).stamp = p (slotAt zero r i).stamp) :
    RingInv app zero g (r.map (fun s => if c s.stamp then { s with val := zero } else s))
      (evs.filter (fun e => !p (g.start e.1))) tl := by
  have hsl : ∀ i, i < g.n → slotAt zero (r.map (fun s => if c s.stamp then { s with val := zero } else s)) i
      = if p (slotAt zero r i).stamp then { slotAt zero r i with val := zero } else slotAt zero r i :=
    fun i hi => by rw [slotAt_map _ _ _ _ (by split <;> rfl), hcp i hi]
  have hstamp : ∀ i, i < g.n →
      (slotAt zero (r.map (fun s => if c s.stamp then { s with val := zero } else s)) i).stamp = (slotAt zero r i).stamp := by
    intro i hi
    rw [hsl i hi]
    split <;> rfl
  refine
    { len := ?len
      slot := fun i hi hne => ?slot
      val := fun i hi => ?val
      newest := fun e he => ?newest
      times := fun e he => h.times e (List.mem_filter.mp he).1 }
  case len => rw [List.length_map, h.len]
  case slot =>
    rw [hstamp i hi] at hne ⊢
    exact h.slot i hi hne
  case val =>
    rw [hstamp i hi, hsl i hi, bucketVal_filter app zero g evs (fun b => !p b)]
    cases p (slotAt zero r i).stamp with
    | true => exact (ite_self zero).symm
    | false => exact h.val i hi
  case newest =>
    rw [hstamp _ (g.idx_lt hn _)]
    exact h.newest e (List.mem_filter.mp he).1

end Generic

end Sentinel
