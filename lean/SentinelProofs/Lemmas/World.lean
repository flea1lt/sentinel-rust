import Sentinel.World
import SentinelProofs.Lemmas.List
/-! The world's per-resource maps are association lists: what `World.lookup` finds after `World.update` and `World.setIfAny`;
and how the verdict of `World.build` comes about. -/
set_option autoImplicit false
namespace Sentinel

theorem lookup_update_same {α : Type} (l : List (String × α)) (k : String) (v : α) :
    World.lookup (World.update l k v) k = some v := by
  simp [World.update, World.lookup]

theorem lookup_update_other {α : Type} (l : List (String × α)) (k k' : String) (v : α) (hne : k ≠ k') :
    World.lookup (World.update l k v) k' = World.lookup l k' := by
  unfold World.update World.lookup
  rw [List.find?_cons_of_neg (by simpa using hne), find_filter_ne l k k' hne]

/-- `setIfAny` writes a resource's controllers back only when it had any before: `h` is that case. Stated with `.getD []`, which
is how `World.ctrls`, `hsCtrls`, `breakers` read the map. -/
theorem lookup_setIfAny {α : Type} (l : List (String × List α)) (res : String) (old new : List α) (h : old ≠ []) :
    (World.lookup (World.setIfAny l res old new) res).getD [] = new := by
  unfold World.setIfAny
  rw [if_neg (by rw [List.isEmpty_iff]; exact h), lookup_update_same]
  rfl

theorem World.build_verdict (w : World) (eid : Nat) (res : String) (batch : Nat) (inbound : Bool)
    (args : Option (List String)) (atts : Option (List (String × String))) :
    (w.build eid res batch inbound args atts).2 = (w.runChecks res batch inbound args atts).res := by
  unfold World.build
  dsimp only
  cases (w.runChecks res batch inbound args atts).res <;> rfl

/-- every slot runs and the last blocked result wins: the verdict is the system slot's unless a later slot blocks, with its own
type. Stated through a motive `P` because each user needs a different property of the verdict (C09: not `.pass`; not a block of
type "SystemFlow"). -/
theorem World.runChecks_verdict (w : World) (res : String) (batch : Nat) (inbound : Bool)
    (args : Option (List String)) (atts : Option (List (String × String))) (P : BuildRes → Prop)
    (hsys : P (match sysCheck w.sys inbound w.sysObs with
      | some (id, snap) => .blocked "SystemFlow" id (World.snapStr snap)
      | none => .pass))
    (hlater : ∀ ty id snap, ty ≠ "SystemFlow" → P (.blocked ty id snap)) :
    P (w.runChecks res batch inbound args atts).res := by
  unfold World.runChecks
  dsimp only
  -- the slots, last first: breaker, hotspot, isolation, flow. Each `by decide` is that slot's block type (isolation's through
  -- `isoBlockType`) against "SystemFlow".
  split
  · exact hlater _ _ _ (by decide)
  · split
    · exact hlater _ _ _ (by decide)
    · split
      · exact hlater _ _ _ (by decide)
      · split
        · exact hlater _ _ _ (by decide)
        · exact hsys

end Sentinel
