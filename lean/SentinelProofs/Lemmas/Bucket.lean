import Sentinel.LeapArray
import SentinelProofs.Lemmas.Ring
import SentinelProofs.Lemmas.RingRead
import SentinelProofs.Lemmas.List
/-! The ring instantiated at `MetricBucket`: what one event does to each statistic of a bucket, hence what a bucket of the history
holds, and the invariant `BInv` with its two constructors (fresh ring, recording). -/
set_option autoImplicit false
namespace Sentinel

/-- the ring invariant at the payload `MetricBucket` with events applied by `Ev.apply` -/
abbrev BInv (g : Geo) (r : BRing) (evs : List TEv) (tl : Nat) : Prop :=
  RingInv Ev.apply MetricBucket.zero g r evs tl

theorem get_apply (b : MetricBucket) (e : Ev) (k : Kind) : (e.apply b).get k = b.get k + e.amount k := by
  cases e with
  | add k' c => cases k' <;> cases k <;> rfl
  | conc c =>
    show (b.updateConcurrency c).get k = b.get k
    unfold MetricBucket.updateConcurrency
    split <;> cases k <;> rfl

theorem get_zero (k : Kind) : MetricBucket.zero.get k = 0 := by cases k <;> rfl

theorem get_bucketVal (g : Geo) (evs : List TEv) (b : Nat) (k : Kind) :
    (bucketVal Ev.apply MetricBucket.zero g evs b).get k
      = ((evs.filter (fun e => g.start e.1 = b)).map (fun e => e.2.amount k)).sum :=
  bucketVal_fold Ev.apply MetricBucket.zero g (· + ·) 0 (fun b => b.get k) (fun e => e.amount k) (get_zero k)
    (fun b e => (get_apply b e k).trans (Nat.add_comm _ _)) evs b

theorem minRt_apply (b : MetricBucket) (e : Ev) (hb : b.minRt ≤ 60000) :
    (e.apply b).minRt = min e.rtVal b.minRt := by
  cases e with
  | add k' c =>
    cases k'
    case rt =>
      show (if c < b.minRt then c else b.minRt) = min c b.minRt
      rw [Nat.min_def]
      split <;> split <;> omega
    all_goals exact (Nat.min_eq_right hb).symm
  | conc c =>
    show (b.updateConcurrency c).minRt = min 60000 b.minRt
    rw [Nat.min_eq_right hb]
    unfold MetricBucket.updateConcurrency
    split <;> rfl

/-- not an instance of `bucketVal_fold`: `minRt_apply` holds only of the buckets that can arise, whose `minRt` is at most the default -/
theorem minRt_bucketVal (g : Geo) (evs : List TEv) (b : Nat) :
    (bucketVal Ev.apply MetricBucket.zero g evs b).minRt
      = ((evs.filter (fun e => g.start e.1 = b)).map (fun e => e.2.rtVal)).foldr min 60000 := by
  unfold bucketVal
  suffices h : ∀ l : List TEv, (l.foldr (fun e acc => Ev.apply acc e.2) MetricBucket.zero).minRt ≤ 60000 ∧
      (l.foldr (fun e acc => Ev.apply acc e.2) MetricBucket.zero).minRt = (l.map (fun e => e.2.rtVal)).foldr min 60000 from (h _).2
  intro l
  induction l with
  | nil => exact ⟨Nat.le_refl _, rfl⟩
  | cons e l ih =>
    simp only [List.foldr_cons, List.map_cons]
    rw [minRt_apply _ _ ih.1, ih.2]
    exact ⟨Nat.le_trans (Nat.min_le_right _ _) (ih.2 ▸ ih.1), rfl⟩

theorem maxConc_apply (b : MetricBucket) (e : Ev) : (e.apply b).maxConc = max e.concVal b.maxConc := by
  cases e with
  | add k' c => cases k' <;> exact (Nat.zero_max _).symm
  | conc c =>
    show (b.updateConcurrency c).maxConc = max c b.maxConc
    unfold MetricBucket.updateConcurrency
    split
    · exact (Nat.max_eq_left (Nat.le_of_lt ‹_›)).symm
    · exact (Nat.max_eq_right (Nat.le_of_not_lt ‹_›)).symm

theorem maxConc_bucketVal (g : Geo) (evs : List TEv) (b : Nat) :
    (bucketVal Ev.apply MetricBucket.zero g evs b).maxConc
      = ((evs.filter (fun e => g.start e.1 = b)).map (fun e => e.2.concVal)).foldr max 0 :=
  bucketVal_fold Ev.apply MetricBucket.zero g max 0 (fun b => b.maxConc) Ev.concVal rfl maxConc_apply evs b

theorem windowSum_cons (L : Nat) (e : TEv) (evs : List TEv) (lo hi : Nat) (k : Kind) :
    windowSum L (e :: evs) lo hi k =
      (if lo ≤ e.1 - e.1 % L ∧ e.1 - e.1 % L ≤ hi then e.2.amount k else 0) + windowSum L evs lo hi k := by
  simp only [windowSum, sum_filter_cons, Bool.and_eq_true, decide_eq_true_eq]

theorem windowSum_cons_zero {L : Nat} {e : TEv} {evs : List TEv} {lo hi : Nat} {k : Kind} (he : e.2.amount k = 0) :
    windowSum L (e :: evs) lo hi k = windowSum L evs lo hi k := by
  rw [windowSum_cons, he, ite_self, Nat.zero_add]

theorem windowSum_events (L t : Nat) (evs : List Ev) (hist : List TEv) (lo hi : Nat) (k : Kind) :
    windowSum L (evs.map (fun e => (t, e)) ++ hist) lo hi k =
      (if lo ≤ t - t % L ∧ t - t % L ≤ hi then (evs.map (Ev.amount k)).sum else 0) + windowSum L hist lo hi k := by
  induction evs with
  | nil => rw [List.map_nil, List.nil_append, List.map_nil, List.sum_nil, ite_self, Nat.zero_add]
  | cons e evs ih =>
    rw [List.map_cons, List.cons_append, windowSum_cons, ih, List.map_cons, List.sum_cons]
    dsimp only
    split <;> omega

theorem windowSum_single (g : Geo) (evs : List TEv) (b : Nat) (k : Kind) :
    windowSum g.L evs b b k = ((evs.filter (fun e => g.start e.1 = b)).map (fun e => e.2.amount k)).sum := by
  unfold windowSum
  congr 2
  apply List.filter_congr
  intro e _
  show (decide (b ≤ g.start e.1) && decide (g.start e.1 ≤ b)) = decide (g.start e.1 = b)
  rw [Bool.eq_iff_iff, Bool.and_eq_true, decide_eq_true_eq, decide_eq_true_eq, decide_eq_true_eq]
  omega

/-- every event of bucket `b` names the total of `b`; with no event that total is 0 -/
theorem maxBucket_bucketVal (g : Geo) (evs : List TEv) (b : Nat) (k : Kind) :
    (bucketVal Ev.apply MetricBucket.zero g evs b).get k
      = ((evs.filter (fun e => g.start e.1 = b)).map
          (fun e => windowSum g.L evs (g.start e.1) (g.start e.1) k)).foldr max 0 := by
  have hc : (evs.filter (fun e => g.start e.1 = b)).map (fun e => windowSum g.L evs (g.start e.1) (g.start e.1) k)
      = (evs.filter (fun e => g.start e.1 = b)).map (fun _ => windowSum g.L evs b b k) := by
    apply List.map_congr_left
    intro e he
    rw [of_decide_eq_true (List.mem_filter.mp he).2]
  rw [hc, get_bucketVal, windowSum_single]
  by_cases hnil : evs.filter (fun e => g.start e.1 = b) = []
  · rw [hnil]
    rfl
  · exact (foldr_max_map_const _ _ hnil).symm

theorem binv_init (g : Geo) (t0 : Nat) : BInv g (ringInit MetricBucket.zero g) [] t0 :=
  ring_inv_init _ _ g t0

theorem ring_inv_record (g : Geo) (hn : 0 < g.n) (hL : 0 < g.L) (r : BRing) (evs : List TEv) (tl t : Nat) (x : Ev)
    (hinv : BInv g r evs tl) (ht : tl ≤ t) (hpos : 0 < g.start t) :
    ∃ r', r.record g t x = some r' ∧ BInv g r' ((t, x) :: evs) t :=
  ring_inv_write Ev.apply MetricBucket.zero g hn hL r evs tl t x hinv ht hpos

end Sentinel
